/-
The loop of `migrateApplyRun` over the pending files (`planFiles`): step equations, the plan of a concatenation,
and what holds for ANY content of the files and any revision table - one crash theorem for every mix of files that
run in a transaction of their own or in none (`planFiles_crash`); for `--tx-mode all` the shape of the plan (BEGIN,
plain operations, one closing operation that is COMMIT only if the command succeeds).
-/
import Lemmas.TxFile

namespace Atlas.Tx

theorem modeFor_nodir {cfg : Cfg} {f : TFile} (hd : f.directive = none) {m : Mode} (hm : cfg.mode = m) :
    modeFor cfg f = some m := by
  simp [modeFor, hd, hm]

theorem modeFor_all {cfg : Cfg} (h : cfg.mode = .all) (f : TFile) :
    (f.directive = none ∧ modeFor cfg f = some .all) ∨ modeFor cfg f = none := by
  unfold modeFor
  cases hd : f.directive with
  | none => simp [h]
  | some m => cases m <;> simp [h]

/-- `f` runs apart from its neighbours, from a closed connection to a closed connection: without a transaction,
or in one of its own that `mayCommit` ends with the file (`mayCommit` testing the mode of the file, or the global
mode under `--tx-mode file`). -/
def Apart (cfg : Cfg) (f : TFile) : Prop :=
  modeFor cfg f = some .none ∨ (modeFor cfg f = some .file ∧ (cfg.fixed = true ∨ cfg.mode = .file))

theorem Apart.of_fixed {cfg : Cfg} {f : TFile} (hfix : cfg.fixed = true)
    (h : modeFor cfg f = some .file ∨ modeFor cfg f = some .none) : Apart cfg f :=
  h.elim (fun h => Or.inr ⟨h, Or.inl hfix⟩) Or.inl

theorem Apart.of_nodir {cfg : Cfg} {f : TFile} (hd : f.directive = none)
    (hm : cfg.mode = .file ∨ cfg.mode = .none) : Apart cfg f := by
  rcases hm with hm | hm
  · exact Or.inr ⟨modeFor_nodir hd hm, Or.inr hm⟩
  · exact Or.inl (modeFor_nodir hd hm)

theorem planFiles_cons {cfg : Cfg} (db : Db) (fi : Nat) {f : TFile} (rest : List TFile) (h : Apart cfg f) :
    planFiles cfg db false fi (f :: rest) =
      (block (modeFor cfg f) (fileOps db fi f).1 (fileOps db fi f).2 ++
         (if (fileOps db fi f).2 then (planFiles cfg db false (fi + 1) rest).1 else []),
       (fileOps db fi f).2 && (planFiles cfg db false (fi + 1) rest).2) := by
  rcases h with hm | ⟨hm, hc⟩
  · rw [hm, block_bare (by simp)]
    cases hok : (fileOps db fi f).2 <;> simp [planFiles, hm, hok]
  · have hc' : (if cfg.fixed = true then true else decide (cfg.mode = .file)) = true := by
      rcases hc with hc | hc <;> simp [hc]
    rw [hm, block_file]
    cases hok : (fileOps db fi f).2 <;> simp [planFiles, hm, hok, hc']

theorem planFiles_cons_ok {cfg : Cfg} (db : Db) (fi : Nat) {f : TFile} (rest : List TFile) (h : Apart cfg f)
    (hok : (fileOps db fi f).2 = true) :
    planFiles cfg db false fi (f :: rest) =
      (block (modeFor cfg f) (fileOps db fi f).1 true ++ (planFiles cfg db false (fi + 1) rest).1,
       (planFiles cfg db false (fi + 1) rest).2) := by
  rw [planFiles_cons db fi rest h, hok]; simp

theorem planFiles_cons_all {cfg : Cfg} (db : Db) (txOpen : Bool) (fi : Nat) {f : TFile} (rest : List TFile)
    (hm : modeFor cfg f = some .all) :
    planFiles cfg db txOpen fi (f :: rest) =
      ((if txOpen then [] else [Op.begin]) ++ (fileOps db fi f).1 ++
         (if (fileOps db fi f).2 then (planFiles cfg db true (fi + 1) rest).1 else [Op.rollback]),
       (fileOps db fi f).2 && (planFiles cfg db true (fi + 1) rest).2) := by
  cases hok : (fileOps db fi f).2 <;> simp [planFiles, hm, hok]

theorem planFiles_all_begin {cfg : Cfg} (db : Db) (fi : Nat) {f : TFile} (rest : List TFile)
    (hm : modeFor cfg f = some .all) :
    planFiles cfg db false fi (f :: rest) =
      (Op.begin :: (planFiles cfg db true fi (f :: rest)).1, (planFiles cfg db true fi (f :: rest)).2) := by
  rw [planFiles_cons_all db false fi rest hm, planFiles_cons_all db true fi rest hm]; rfl

/-- files that run apart: plans concatenate as long as the first part succeeds. -/
theorem planFiles_append {cfg : Cfg} {db : Db} {a : List TFile} {fi : Nat} (b : List TFile)
    (ha : ∀ f ∈ a, Apart cfg f) (hok : (planFiles cfg db false fi a).2 = true) :
    planFiles cfg db false fi (a ++ b) =
      ((planFiles cfg db false fi a).1 ++ (planFiles cfg db false (fi + a.length) b).1,
       (planFiles cfg db false (fi + a.length) b).2) := by
  induction a generalizing fi with
  | nil => simp [planFiles]
  | cons f fs ih =>
    have hf := ha f (List.mem_cons_self ..)
    rw [planFiles_cons db fi fs hf, Bool.and_eq_true] at hok
    rw [List.cons_append, planFiles_cons db fi _ hf, planFiles_cons db fi fs hf,
      ih (fun x hx => ha x (List.mem_cons_of_mem _ hx)) hok.2, hok.1]
    simp [Nat.add_assoc, Nat.add_comm 1]

/-- the command succeeds only if `Execute` succeeds on every file - in any mode, with any directives. -/
theorem planFiles_ok_files {cfg : Cfg} {db : Db} {files : List TFile} {txOpen : Bool} {fi : Nat}
    (hok : (planFiles cfg db txOpen fi files).2 = true) {i : Nat} {f : TFile} (hf : files[i]? = some f) :
    (fileOps db (fi + i) f).2 = true := by
  induction files generalizing txOpen fi i with
  | nil => simp at hf
  | cons g rest ih =>
    -- whatever the mode of `g`: `g` succeeded and the loop went on, with or without an open transaction
    have key : (fileOps db fi g).2 = true ∧ ∃ o, (planFiles cfg db o (fi + 1) rest).2 = true := by
      cases hm : modeFor cfg g with
      | none => simp [planFiles, hm] at hok                -- a rejected directive fails the command
      | some m =>
        cases m with
        | all =>
          rw [planFiles_cons_all db txOpen fi rest hm, Bool.and_eq_true] at hok
          exact ⟨hok.1, true, hok.2⟩
        | none =>
          cases txOpen with
          | true => simp [planFiles, hm] at hok            -- "database is locked"
          | false =>
            rw [planFiles_cons db fi rest (Or.inl hm), Bool.and_eq_true] at hok
            exact ⟨hok.1, false, hok.2⟩
        | file =>
          cases txOpen with
          | true => simp [planFiles, hm] at hok            -- the connection is closed
          | false =>
            -- without the commit condition of `Apart` the loop may go on with the transaction open
            cases hg : (fileOps db fi g).2 with
            | false => simp [planFiles, hm, hg] at hok
            | true => simp [planFiles, hm, hg] at hok; exact ⟨rfl, _, hok⟩
    cases i with
    | zero => cases Option.some.inj hf; exact key.1
    | succ i =>
      obtain ⟨o, ho⟩ := key.2
      have := ih ho hf
      rwa [Nat.add_assoc, Nat.add_comm 1 i] at this

/-- the crash theorem for files that run apart - any content, any revision table, any mix of modes: at any
crash point the first `t` files are completely applied (they all succeeded) and of file `t` there is nothing -
or, only if it runs without a transaction, its first `j` operations, for some `j`. -/
theorem planFiles_crash {cfg : Cfg} (db : Db) {files : List TFile} (ha : ∀ f ∈ files, Apart cfg f)
    (fi : Nat) (d : Db) (k : Nat) : ∃ t, t ≤ files.length ∧
      (planFiles cfg db false fi (files.take t)).2 = true ∧
      (crashAt d (planFiles cfg db false fi files).1 k = runAll d (planFiles cfg db false fi (files.take t)).1 ∨
       ∃ f j, files[t]? = some f ∧ modeFor cfg f ≠ some .file ∧
         crashAt d (planFiles cfg db false fi files).1 k =
           ((fileOps db (fi + t) f).1.take j).foldl durApply
             (runAll d (planFiles cfg db false fi (files.take t)).1)) := by
  induction files generalizing fi d k with
  | nil => exact ⟨0, Nat.le_refl _, rfl, Or.inl (by simp [planFiles, crashAt, runAll, applyOps])⟩
  | cons f rest ih =>
    have hf := ha f (List.mem_cons_self ..)
    have hp := fileOps_plain db fi f
    by_cases hk : k < (block (modeFor cfg f) (fileOps db fi f).1 (fileOps db fi f).2).length ∨
        (fileOps db fi f).2 = false
    · -- the crash point lies in the block of `f`, or `f` fails and its block is all there is
      refine ⟨0, Nat.zero_le _, rfl, ?_⟩
      have hc : crashAt d (planFiles cfg db false fi (f :: rest)).1 k =
          crashAt d (block (modeFor cfg f) (fileOps db fi f).1 (fileOps db fi f).2) k := by
        rw [planFiles_cons db fi rest hf]
        rcases hk with hk | hk
        · exact crashAt_append_left (by omega)
        · simp [hk]
      rw [hc, block_crash hp hk]
      by_cases hm : modeFor cfg f = some .file
      · left; rw [if_pos hm]; rfl
      · right; exact ⟨f, k, rfl, hm, by rw [if_neg hm]; rfl⟩
    · -- the block of `f` is complete and `f` succeeded: go on behind it
      have hok : (fileOps db fi f).2 = true := Bool.of_not_eq_false (fun h => hk (Or.inr h))
      have hrun := block_run (m := modeFor cfg f) (ok := true) hp d
      rw [if_neg (by simp)] at hrun
      obtain ⟨t, ht, hokt, hcase⟩ := ih (fun x hx => ha x (List.mem_cons_of_mem _ hx)) (fi + 1)
        ((fileOps db fi f).1.foldl durApply d) (k - (block (modeFor cfg f) (fileOps db fi f).1 true).length)
      have hstep := fun l => planFiles_cons_ok db fi l hf hok
      refine ⟨t + 1, Nat.succ_le_succ ht, by rw [List.take_succ_cons, hstep]; exact hokt, ?_⟩
      rw [List.take_succ_cons, hstep, hstep, crashAt_append_right hrun _ (by rw [hok] at hk; omega),
        runAll_append hrun]
      rw [Nat.add_assoc, Nat.add_comm 1 t] at hcase
      exact hcase

/-- `--tx-mode none` without directives: no transaction at all. -/
theorem planFiles_none_plain {cfg : Cfg} (h : cfg.mode = .none) (db : Db) {files : List TFile}
    (hd : ∀ f ∈ files, f.directive = none) :
    ∀ (fi : Nat), ∀ op ∈ (planFiles cfg db false fi files).1, op.plain = true := by
  induction files with
  | nil => intro fi op hop; simp [planFiles] at hop
  | cons f rest ih =>
    intro fi op hop
    have hf := hd f (List.mem_cons_self ..)
    rw [planFiles_cons db fi rest (Apart.of_nodir hf (Or.inr h)), List.mem_append] at hop
    rcases hop with h1 | h1
    · rw [block_bare (by rw [modeFor_nodir hf h]; simp)] at h1
      exact fileOps_plain db fi f op h1
    · split at h1
      · exact ih (fun g hg => hd g (List.mem_cons_of_mem _ hg)) (fi + 1) op h1
      · cases h1

/-! ### `--tx-mode all`: one transaction around everything -/

/-- a successful run in mode `all` met no directive at all. -/
theorem planFiles_all_ok_directives (cfg : Cfg) (h : cfg.mode = .all) (db : Db) (files : List TFile) :
    ∀ (txOpen : Bool) (fi : Nat), (planFiles cfg db txOpen fi files).2 = true → ∀ f ∈ files, f.directive = none := by
  induction files with
  | nil => intro _ _ _ f hf; simp at hf
  | cons f rest ih =>
    intro txOpen fi hok g hg
    rcases modeFor_all h f with ⟨hdir, hm⟩ | hm
    · rw [planFiles_cons_all db txOpen fi rest hm, Bool.and_eq_true] at hok
      rcases List.mem_cons.mp hg with rfl | hr
      · exact hdir
      · exact ih true (fi + 1) hok.2 g hr
    · simp [planFiles, hm] at hok

/-- mode `all`, the transaction open: plain operations, then exactly one closing operation - COMMIT only if the
command succeeds. -/
theorem planFiles_all_open_shape {cfg : Cfg} (h : cfg.mode = .all) (db : Db) (files : List TFile) :
    ∀ (fi : Nat), ∃ p last, (planFiles cfg db true fi files).1 = p ++ [last] ∧ (∀ op ∈ p, op.plain = true) ∧
      (last = Op.commit → (planFiles cfg db true fi files).2 = true) := by
  induction files with
  | nil => intro fi; exact ⟨[], Op.commit, rfl, by simp, fun _ => rfl⟩
  | cons f rest ih =>
    intro fi
    rcases modeFor_all h f with ⟨_, hm⟩ | hm
    · rw [planFiles_cons_all db true fi rest hm]
      cases hok : (fileOps db fi f).2 with
      | true =>
        obtain ⟨p, last, he, hp, hl⟩ := ih (fi + 1)
        refine ⟨(fileOps db fi f).1 ++ p, last, by simp [he], fun op hop => ?_, hl⟩
        exact (List.mem_append.mp hop).elim (fileOps_plain db fi f op) (hp op)
      | false => exact ⟨(fileOps db fi f).1, Op.rollback, by simp, fileOps_plain db fi f, nofun⟩
    · -- a rejected directive: the connection is closed, and the transaction with it
      exact ⟨[], Op.close, by simp [planFiles, hm], by simp, nofun⟩

/-- mode `all` from a closed connection: nothing, or one transaction. -/
theorem planFiles_all_shape {cfg : Cfg} (h : cfg.mode = .all) (db : Db) (files : List TFile) (fi : Nat) :
    (planFiles cfg db false fi files).1 = [] ∨
    ∃ p last, (planFiles cfg db false fi files).1 = Op.begin :: p ++ [last] ∧ (∀ op ∈ p, op.plain = true) ∧
      (last = Op.commit → (planFiles cfg db false fi files).2 = true) := by
  cases files with
  | nil => exact Or.inl rfl
  | cons f rest =>
    rcases modeFor_all h f with ⟨_, hm⟩ | hm
    · obtain ⟨p, last, he, hp, hl⟩ := planFiles_all_open_shape h db (f :: rest) fi
      rw [planFiles_all_begin db fi rest hm]
      exact Or.inr ⟨p, last, by rw [he]; rfl, hp, hl⟩
    · exact Or.inl (by simp [planFiles, hm])

end Atlas.Tx

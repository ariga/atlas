/-
`detachReferences` (sql/internal/sqlx/plan.go) on change sets of one kind `k` (`.add` / `.drop`): the result is
`tablesOf k` (the tables without their keys to other tables) and `altersOf k` (the ALTERs carrying those keys),
in the order of the kind (`detachReferences_add/_drop`; the fold is unfolded per kind). The facts about the two
lists are proved once for both kinds. (C04)
-/
import Lemmas.SortDfs

namespace Atlas.Sort

/-- the keys to other tables: `ext` / `fks` of `detachStep` (Atlas/Sort.lean). -/
def extFks (c : Ch) : List FK := c.fks.filter (fun fk => fk.ref != c.table)
/-- the self references: `self` of `detachStep`. -/
def selfFks (c : Ch) : List FK := c.fks.filter (fun fk => fk.ref == c.table)

/-- the sub-change that carries a detached foreign key. -/
def detached : Kind → FK → Sub
  | .drop => Sub.dropFK
  | _ => Sub.addFK

/-- the CREATE / DROP TABLE `c` without its external keys. -/
def keep : Kind → Nat → Ch → Ch
  | .drop, nid, c => { c with id := nid + 1, fks := [] }
  | _, nid, c => { c with id := nid, fks := selfFks c }

/-- the ALTER TABLE that adds / drops the external keys of `c`. -/
def alter : Kind → Nat → Ch → Ch
  | .drop, nid, c => { id := nid, kind := .modify, table := c.table, subs := (extFks c).map Sub.dropFK }
  | _, nid, c => { id := nid + 1, kind := .modify, table := c.table, subs := (extFks c).map Sub.addFK }

/-- the table changes / the ALTERs emitted for changes of kind `k`; `nid` = next fresh identity. -/
def tablesOf (k : Kind) : Nat → List Ch → List Ch
  | _, [] => []
  | nid, c :: t => if (extFks c).isEmpty then c :: tablesOf k nid t else keep k nid c :: tablesOf k (nid + 2) t

def altersOf (k : Kind) : Nat → List Ch → List Ch
  | _, [] => []
  | nid, c :: t => if (extFks c).isEmpty then altersOf k nid t else alter k nid c :: altersOf k (nid + 2) t

theorem detachStep_add (p d : List Ch) (nid : Nat) {c : Ch} (hc : c.kind = .add) :
    detachStep (p, d, nid) c =
      if (extFks c).isEmpty then (p ++ [c], d, nid) else (p ++ [keep .add nid c], d ++ [alter .add nid c], nid + 2) := by
  simp only [detachStep, hc, keep, alter, extFks, selfFks]

theorem detachStep_drop (p d : List Ch) (nid : Nat) {c : Ch} (hc : c.kind = .drop) :
    detachStep (p, d, nid) c =
      if (extFks c).isEmpty then (p, d ++ [c], nid) else (p ++ [alter .drop nid c], d ++ [keep .drop nid c], nid + 2) := by
  simp only [detachStep, hc, keep, alter, extFks]

theorem detach_fold_add {l : List Ch} : ∀ (p d : List Ch) (nid : Nat), (∀ c ∈ l, c.kind = .add) →
    ∃ nid', l.foldl detachStep (p, d, nid) = (p ++ tablesOf .add nid l, d ++ altersOf .add nid l, nid') := by
  induction l with
  | nil => intro p d nid _; exact ⟨nid, by rw [tablesOf, altersOf, List.append_nil, List.append_nil]; rfl⟩
  | cons c t ih =>
    intro p d nid h
    have ht : ∀ x ∈ t, x.kind = .add := fun x hx => h x (List.mem_cons_of_mem _ hx)
    rw [List.foldl_cons, detachStep_add p d nid (h c (List.mem_cons_self ..)), tablesOf, altersOf]
    split
    · obtain ⟨n, e⟩ := ih (p ++ [c]) d nid ht
      exact ⟨n, by rw [e, List.append_assoc]; rfl⟩
    · obtain ⟨n, e⟩ := ih (p ++ [keep .add nid c]) (d ++ [alter .add nid c]) (nid + 2) ht
      exact ⟨n, by rw [e, List.append_assoc, List.append_assoc]; rfl⟩

theorem detach_fold_drop {l : List Ch} : ∀ (p d : List Ch) (nid : Nat), (∀ c ∈ l, c.kind = .drop) →
    ∃ nid', l.foldl detachStep (p, d, nid) = (p ++ altersOf .drop nid l, d ++ tablesOf .drop nid l, nid') := by
  induction l with
  | nil => intro p d nid _; exact ⟨nid, by rw [tablesOf, altersOf, List.append_nil, List.append_nil]; rfl⟩
  | cons c t ih =>
    intro p d nid h
    have ht : ∀ x ∈ t, x.kind = .drop := fun x hx => h x (List.mem_cons_of_mem _ hx)
    rw [List.foldl_cons, detachStep_drop p d nid (h c (List.mem_cons_self ..)), tablesOf, altersOf]
    split
    · obtain ⟨n, e⟩ := ih p (d ++ [c]) nid ht
      exact ⟨n, by rw [e, List.append_assoc]; rfl⟩
    · obtain ⟨n, e⟩ := ih (p ++ [alter .drop nid c]) (d ++ [keep .drop nid c]) (nid + 2) ht
      exact ⟨n, by rw [e, List.append_assoc, List.append_assoc]; rfl⟩

theorem detachReferences_add (cs : List Ch) (h : ∀ c ∈ cs, c.kind = .add) :
    detachReferences cs = tablesOf .add (freshBase cs) cs ++ altersOf .add (freshBase cs) cs := by
  obtain ⟨n, e⟩ := detach_fold_add [] [] (freshBase cs) h
  unfold detachReferences; rw [e]; rfl

theorem detachReferences_drop (cs : List Ch) (h : ∀ c ∈ cs, c.kind = .drop) :
    detachReferences cs = altersOf .drop (freshBase cs) cs ++ tablesOf .drop (freshBase cs) cs := by
  obtain ⟨n, e⟩ := detach_fold_drop [] [] (freshBase cs) h
  unfold detachReferences; rw [e]; rfl

/-! ### `tablesOf` and `altersOf` -/

section
variable {k : Kind} {nid : Nat} {c : Ch}

theorem keep_kind : (keep k nid c).kind = c.kind := by cases k <;> rfl
theorem keep_table : (keep k nid c).table = c.table := by cases k <;> rfl
theorem keep_fks : ∀ fk ∈ (keep k nid c).fks, fk.ref = (keep k nid c).table := by cases k <;> simp [keep, selfFks]

theorem alter_kind : (alter k nid c).kind = .modify := by cases k <;> rfl
theorem alter_table : (alter k nid c).table = c.table := by cases k <;> rfl
theorem alter_subs : (alter k nid c).subs = (extFks c).map (detached k) := by cases k <;> rfl

end

section
variable (k : Kind)

theorem self_of_extFks_isEmpty {c : Ch} (h : (extFks c).isEmpty = true) : ∀ fk ∈ c.fks, fk.ref = c.table := by
  simpa [extFks, List.isEmpty_iff, List.filter_eq_nil_iff] using h

theorem tablesOf_table (nid : Nat) (l : List Ch) : (tablesOf k nid l).map (·.table) = l.map (·.table) := by
  fun_induction tablesOf k nid l with
  | case1 => rfl
  | case2 nid c t he ih => rw [List.map_cons, List.map_cons, ih]
  | case3 nid c t he ih => rw [List.map_cons, List.map_cons, ih, keep_table]

theorem tablesOf_spec (nid : Nat) {l : List Ch} (h : ∀ c ∈ l, c.kind = k) :
    ∀ p ∈ tablesOf k nid l, p.kind = k ∧ ∀ fk ∈ p.fks, fk.ref = p.table := by
  fun_induction tablesOf k nid l with
  | case1 => exact fun _ h => nomatch h
  | case2 nid c t he ih =>
    exact List.forall_mem_cons.mpr ⟨⟨h c (List.mem_cons_self ..), self_of_extFks_isEmpty he⟩,
      ih fun x hx => h x (List.mem_cons_of_mem _ hx)⟩
  | case3 nid c t he ih =>
    exact List.forall_mem_cons.mpr ⟨⟨keep_kind.trans (h c (List.mem_cons_self ..)), keep_fks⟩,
      ih fun x hx => h x (List.mem_cons_of_mem _ hx)⟩

theorem altersOf_spec (nid : Nat) (l : List Ch) :
    ∀ d ∈ altersOf k nid l, d.kind = .modify ∧ ∃ c ∈ l, d.table = c.table ∧ d.subs = (extFks c).map (detached k) := by
  fun_induction altersOf k nid l with
  | case1 => exact fun _ h => nomatch h
  | case2 nid c t he ih => exact fun d hd => (ih d hd).imp_right fun ⟨c', hc', h⟩ => ⟨c', List.mem_cons_of_mem _ hc', h⟩
  | case3 nid c t he ih =>
    exact List.forall_mem_cons.mpr ⟨⟨alter_kind, c, List.mem_cons_self .., alter_table, alter_subs⟩,
      fun d hd => (ih d hd).imp_right fun ⟨c', hc', h⟩ => ⟨c', List.mem_cons_of_mem _ hc', h⟩⟩

theorem altersOf_kind (nid : Nat) (l : List Ch) : ∀ d ∈ altersOf k nid l, d.kind = .modify :=
  fun d hd => (altersOf_spec k nid l d hd).1

theorem altersOf_complete {l : List Ch} : ∀ (nid : Nat) (c : Ch), c ∈ l → ∀ fk ∈ c.fks, fk.ref ≠ c.table →
    ∃ d ∈ altersOf k nid l, d.kind = .modify ∧ d.table = c.table ∧ detached k fk ∈ d.subs := by
  induction l with
  | nil => intro _ c hc; cases hc
  | cons a t ih =>
    intro nid c hc fk hfk hne
    have hext : fk ∈ extFks c := List.mem_filter.mpr ⟨hfk, by simpa using hne⟩
    unfold altersOf
    rcases List.mem_cons.mp hc with rfl | hct
    · rw [if_neg (by rw [List.isEmpty_iff]; exact List.ne_nil_of_mem hext)]
      exact ⟨_, List.mem_cons_self .., alter_kind, alter_table, by rw [alter_subs]; exact List.mem_map_of_mem hext⟩
    · split
      · exact ih nid c hct fk hfk hne
      · obtain ⟨d, hd, h⟩ := ih (nid + 2) c hct fk hfk hne
        exact ⟨d, List.mem_cons_of_mem _ hd, h⟩

/-! ### identities -/

theorem keep_alter_id (nid : Nat) (c : Ch) :
    ((keep k nid c).id = nid ∧ (alter k nid c).id = nid + 1) ∨ ((keep k nid c).id = nid + 1 ∧ (alter k nid c).id = nid) := by
  cases k <;> simp [keep, alter]

theorem ids_bound (l : List Ch) : ∀ (nid : Nat),
    ∀ x ∈ tablesOf k nid l ++ altersOf k nid l, x.id ∈ l.map (·.id) ∨ nid ≤ x.id := by
  induction l with
  | nil => intro _ x hx; cases hx
  | cons c t ih =>
    intro nid x hx
    have lift : ∀ n, nid ≤ n → x ∈ tablesOf k n t ++ altersOf k n t → x.id ∈ (c :: t).map (·.id) ∨ nid ≤ x.id :=
      fun n hn h => (ih n x h).imp (List.mem_cons_of_mem _) (Nat.le_trans hn)
    unfold tablesOf altersOf at hx
    split at hx
    · rcases List.mem_cons.mp hx with rfl | hx
      · exact Or.inl (List.mem_cons_self ..)
      · exact lift nid (Nat.le_refl _) hx
    · have hka := keep_alter_id k nid c
      rw [List.cons_append, List.mem_cons, List.mem_append, List.mem_cons] at hx
      rcases hx with rfl | hx | rfl | hx
      · right; omega  -- by `hka`, here and below
      · exact lift (nid + 2) (Nat.le_add_right ..) (List.mem_append_left _ hx)
      · right; omega
      · exact lift (nid + 2) (Nat.le_add_right ..) (List.mem_append_right _ hx)

theorem ids_nodup (l : List Ch) : ∀ (nid : Nat), (l.map (·.id)).Nodup → (∀ c ∈ l, c.id < nid) →
    ((tablesOf k nid l ++ altersOf k nid l).map (·.id)).Nodup := by
  induction l with
  | nil => intro _ _ _; exact List.nodup_nil
  | cons c t ih =>
    intro nid hnd hlt
    rw [List.map_cons, List.nodup_cons] at hnd
    have hc := hlt c (List.mem_cons_self ..)
    have hlt' : ∀ x ∈ t, x.id < nid := fun x hx => hlt x (List.mem_cons_of_mem _ hx)
    have rest : ∀ n, nid ≤ n → ∀ i ∈ (tablesOf k n t ++ altersOf k n t).map (·.id), i ≠ c.id ∧ (i < nid ∨ n ≤ i) := by
      intro n hn i hi
      obtain ⟨x, hx, rfl⟩ := List.mem_map.mp hi
      rcases ids_bound k t n x hx with h | h
      · obtain ⟨y, hy, hyi⟩ := List.mem_map.mp h
        exact ⟨fun e => hnd.1 (e ▸ h), Or.inl (hyi ▸ hlt' y hy)⟩
      · exact ⟨Nat.ne_of_gt (Nat.lt_of_lt_of_le hc (Nat.le_trans hn h)), Or.inr h⟩
    unfold tablesOf altersOf
    split
    · rw [List.cons_append, List.map_cons, List.nodup_cons]
      exact ⟨fun hm => (rest nid (Nat.le_refl _) _ hm).1 rfl, ih nid hnd.2 hlt'⟩
    · have hka := keep_alter_id k nid c
      have hperm : (keep k nid c :: tablesOf k (nid + 2) t ++ alter k nid c :: altersOf k (nid + 2) t).Perm
          (keep k nid c :: alter k nid c :: (tablesOf k (nid + 2) t ++ altersOf k (nid + 2) t)) :=
        List.Perm.cons _ List.perm_middle
      rw [(hperm.map _).nodup_iff, List.map_cons, List.map_cons, List.nodup_cons, List.nodup_cons, List.mem_cons]
      have fresh := fun i hi => (rest (nid + 2) (Nat.le_add_right ..) i hi).2
      refine ⟨?_, fun h => ?_, ih (nid + 2) hnd.2 (fun x hx => Nat.lt_add_right 2 (hlt' x hx))⟩
      · rintro (h | h)
        · omega
        · have := fresh _ h; omega
      · have := fresh _ h; omega

end

theorem lt_freshBase (cs : List Ch) : ∀ c ∈ cs, c.id < freshBase cs := fun c hc =>
  Nat.lt_succ_of_le (by
    rw [List.foldl_max]
    exact Nat.le_trans (List.le_max?_getD_of_mem (List.mem_map_of_mem hc)) (Nat.le_max_right ..))

/-! ### dependencies in the detached set -/

/-- creations before ALTERs before drops. -/
def kindRank (c : Ch) : Nat := match c.kind with | .add => 0 | .modify => 1 | .drop => 2

theorem kindRank_lt_of_dependsOn {k : Kind} (hk : k = .add ∨ k = .drop) {T A : List Ch}
    (hT : ∀ p ∈ T, p.kind = k ∧ ∀ fk ∈ p.fks, fk.ref = p.table) (hA : ∀ d ∈ A, d.kind = .modify)
    (tinj : ∀ x ∈ T, ∀ y ∈ T, x.table = y.table → x = y)
    {a b : Ch} (ha : a ∈ T ∨ a ∈ A) (hb : b ∈ T ∨ b ∈ A) (hdep : dependsOn a b = true) (hne : a.id ≠ b.id) :
    kindRank b < kindRank a := by
  rcases ha with haT | haA
  · rcases hb with hbT | hbA
    · -- the key is a self reference, so both are the change of one table
      exfalso
      have htab : a.table = b.table := by
        rcases hk with rfl | rfl
        · obtain ⟨fk, hfk, hfr⟩ := (dependsOn_add_add (hT a haT).1 (hT b hbT).1).mp hdep
          exact ((hT a haT).2 fk hfk).symm.trans hfr
        · obtain ⟨fk, hfk, hfr⟩ := (dependsOn_drop_drop (hT a haT).1 (hT b hbT).1).mp hdep
          exact hfr.symm.trans ((hT b hbT).2 fk hfk)
      exact hne (congrArg (·.id) (tinj a haT b hbT htab))
    · rcases hk with rfl | rfl
      · obtain ⟨hneq, fk, hfk, hfr⟩ := (dependsOn_add_modify (hT a haT).1 (hA b hbA)).mp hdep
        exact absurd (((hT a haT).2 fk hfk).symm.trans hfr) hneq
      · simp only [kindRank, (hT a haT).1, hA b hbA]; decide
  · rcases hb with hbT | hbA
    · rcases hk with rfl | rfl
      · simp only [kindRank, (hT b hbT).1, hA a haA]; decide
      · rw [dependsOn_modify_eq_false (hA a haA) (by rw [(hT b hbT).1]; decide)] at hdep; cases hdep
    · rw [dependsOn_modify_eq_false (hA a haA) (by rw [hA b hbA]; decide)] at hdep; cases hdep

end Atlas.Sort

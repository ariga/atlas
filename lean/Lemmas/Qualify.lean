/-
`CheckChangesScope` (`Atlas.Qualify.checkScope`; sql/internal/sqlx/plan.go): the loop in closed form (`scopeGo_eq`) and
exactly which change sets pass (`checkScope_eq_true`). For C16.
-/
import Atlas.Qualify

namespace Atlas.Qualify

/-- a change the loop of `CheckChangesScope` refuses on sight. -/
def rejected (scope : Text) (ip : Bool) : ScopeCh → Bool
  | .addSchema | .dropSchema => true
  | .modifySchema n => !ip || (!scope.isEmpty && scope != n)
  | _ => false

/-- the schema names a change adds to the collected list. -/
def namesOf : ScopeCh → List Text
  | .modifySchema n => [n]
  | .table s => if s.isEmpty then [] else [s]
  | _ => []

theorem mem_namesOf {x : Text} {c : ScopeCh} : x ∈ namesOf c ↔ c = .modifySchema x ∨ (c = .table x ∧ x ≠ []) := by
  cases c with
  | modifySchema n => simp [namesOf, eq_comm]
  | table s => cases s <;> simp +contextual [namesOf, eq_comm]
  | _ => simp [namesOf]

theorem scopeGo_eq (scope : Text) (ip : Bool) : ∀ (cs : List ScopeCh) (names : List Text),
    scopeGo scope ip cs names =
      if cs.any (rejected scope ip) then none else some (names ++ cs.flatMap namesOf) := by
  intro cs
  induction cs with
  | nil => intro names; simp [scopeGo]
  | cons c cs ih =>
    intro names
    cases c with
    | addSchema => rfl
    | dropSchema => rfl
    | modifySchema n =>
      simp only [scopeGo, ih, List.any_cons, rejected, List.flatMap_cons, namesOf, List.append_assoc]
      cases ip <;> cases (!scope.isEmpty && scope != n) <;> rfl
    | table s =>
      simp only [scopeGo, ih, List.any_cons, rejected, List.flatMap_cons, namesOf, Bool.false_or]
      cases s.isEmpty <;> simp
    | object s => exact ih names
    | other => exact ih names

theorem foldl_dedup : ∀ (l acc : List Text), acc.Nodup →
    (l.foldl (fun acc x => if acc.contains x then acc else acc ++ [x]) acc).Nodup ∧
    ∀ x, x ∈ l.foldl (fun acc x => if acc.contains x then acc else acc ++ [x]) acc ↔ (x ∈ acc ∨ x ∈ l) := by
  intro l
  induction l with
  | nil => intro acc h; exact ⟨h, fun x => by rw [List.foldl_nil, or_iff_left List.not_mem_nil]⟩
  | cons y ys ih =>
    intro acc h
    simp only [List.foldl_cons]
    split
    · rename_i hy
      obtain ⟨h1, h2⟩ := ih acc h
      refine ⟨h1, fun x => ?_⟩
      rw [h2 x, List.mem_cons]
      exact ⟨Or.imp_right Or.inr, fun h => h.elim Or.inl fun h => h.elim (fun e => Or.inl (e ▸ List.contains_iff_mem.mp hy)) Or.inr⟩
    · rename_i hy
      have hnd : (acc ++ [y]).Nodup := by
        rw [List.nodup_append]
        refine ⟨h, List.nodup_cons.mpr ⟨List.not_mem_nil, List.nodup_nil⟩, fun a ha b hb e => ?_⟩
        exact hy (List.contains_iff_mem.mpr (List.mem_singleton.mp hb ▸ e ▸ ha))
      obtain ⟨h1, h2⟩ := ih (acc ++ [y]) hnd
      refine ⟨h1, fun x => ?_⟩
      rw [h2 x, List.mem_append, List.mem_singleton, List.mem_cons, or_assoc]

theorem nodup_length_le_one {α : Type} {l : List α} (hnd : l.Nodup) : l.length ≤ 1 ↔ ∀ a ∈ l, ∀ b ∈ l, a = b := by
  match l, hnd with
  | [], _ => exact ⟨fun _ _ h => (nomatch h), fun _ => Nat.zero_le _⟩
  | [x], _ =>
    exact ⟨fun _ a ha b hb => (List.mem_singleton.mp ha).trans (List.mem_singleton.mp hb).symm, fun _ => Nat.le_refl _⟩
  | x :: y :: l, hnd =>
    have hxy : x ≠ y := fun e => (List.nodup_cons.mp hnd).1 (e ▸ List.mem_cons_self ..)
    exact ⟨fun h => absurd h (by simp [List.length_cons]),
      fun h => absurd (h x (List.mem_cons_self ..) y (List.mem_cons_of_mem _ (List.mem_cons_self ..))) hxy⟩

theorem checkScope_eq_true (q : Qualifier) (ip : Bool) (cs : List ScopeCh) :
    checkScope q ip cs = true ↔ cs.any (rejected (q.getD []) ip) = false ∧
      ∀ c ∈ cs, ∀ a ∈ namesOf c, ∀ d ∈ cs, ∀ b ∈ namesOf d, a = b := by
  unfold checkScope
  rw [scopeGo_eq]
  cases cs.any (rejected (q.getD []) ip) with
  | true => exact ⟨fun h => (nomatch h), fun h => (nomatch h.1)⟩
  | false =>
    obtain ⟨hnd, hmem⟩ := foldl_dedup (cs.flatMap namesOf) [] List.nodup_nil
    simp only [Bool.false_eq_true, if_false, List.nil_append, decide_eq_true_eq, true_and]
    refine (nodup_length_le_one hnd).trans ?_
    simp only [hmem, List.not_mem_nil, false_or, List.mem_flatMap]
    exact ⟨fun h c hc a ha d hd b hb => h a ⟨c, hc, ha⟩ b ⟨d, hd, hb⟩,
      fun h a ⟨c, hc, ha⟩ b ⟨d, hd, hb⟩ => h c hc a ha d hd b hb⟩

theorem checkScope_of_rejected {q : Qualifier} {ip : Bool} {cs : List ScopeCh} {c : ScopeCh} (hmem : c ∈ cs)
    (hc : rejected (q.getD []) ip c = true) : checkScope q ip cs = false :=
  Bool.eq_false_iff.mpr fun h =>
    Bool.false_ne_true (((checkScope_eq_true q ip cs).mp h).1.symm.trans (List.any_eq_true.mpr ⟨c, hmem, hc⟩))

end Atlas.Qualify

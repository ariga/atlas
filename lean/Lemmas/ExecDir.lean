/-
The directory-level invariant of the executor (C09), after any number of `exec` runs under any fault schedules.
-/
import Lemmas.ExecInv

namespace Atlas.Exec

/-- the journal `J` is `l` in order, where `k` times an element was executed again immediately after itself. -/
inductive Stutter {α : Type} : Nat → List α → List α → Prop
  | nil : Stutter 0 [] []
  | next {k l J} (x : α) : Stutter k l J → Stutter k (l ++ [x]) (J ++ [x])
  | rep {k l J} (x : α) : Stutter k (l ++ [x]) J → Stutter (k + 1) (l ++ [x]) (J ++ [x])

theorem Stutter.append {α : Type} {k : Nat} {l J : List α} (h : Stutter k l J) (xs : List α) :
    Stutter k (l ++ xs) (J ++ xs) := by
  induction xs generalizing l J with
  | nil => simpa using h
  | cons x xs ih =>
    have := ih (Stutter.next x h)
    simpa using this

theorem Stutter.zero_eq {α : Type} {l J : List α} (h : Stutter 0 l J) : J = l := by
  generalize hk : 0 = k at h
  induction h with
  | nil => rfl
  | next x _ ih => rw [ih hk]
  | rep x _ _ => omega

theorem Stutter.length {α : Type} {k : Nat} {l J : List α} (h : Stutter k l J) : J.length = l.length + k := by
  induction h with
  | nil => rfl
  | next x _ ih => simp only [List.length_append, List.length_singleton, ih]; omega
  | rep x _ ih => simp only [List.length_append, List.length_singleton] at ih ⊢; omega

/-- the statements of a list of files, in order. -/
def flat (fs : List MFile) : List Text := (fs.map (·.stmts)).flatten

@[simp] theorem flat_nil : flat [] = [] := rfl
theorem flat_append (a b : List MFile) : flat (a ++ b) = flat a ++ flat b := by simp [flat]
theorem flat_single (m : MFile) : flat [m] = m.stmts := by simp [flat]

/-- the statements of the first pending file. -/
def headStmts : List MFile → List Text
  | [] => []
  | m :: _ => m.stmts

/-- `pre`: the files completely recorded; `a` statements of the first of `rest` are recorded, `e ≤ 1` more was
executed but its bookkeeping write failed; the journal is everything up to there, in order, with `k` immediate
repetitions, each paid for (as is the unrecorded statement) by a failed revision write. Reads only `revs`,
`journal`, `wfails`: for a world that differs elsewhere, rebuild it field by field. -/
structure DInv (H : Text → String) (pre rest : List MFile) (w : World) (a e k : Nat) : Prop where
  done : ∀ m ∈ pre, Complete w.revs m
  cur : match rest with
    | [] => a = 0 ∧ e = 0
    | m :: post => Recorded H w.revs m a ∧ a + e ≤ m.stmts.length ∧
        (a < m.stmts.length ∨ findRev m.version w.revs = none) ∧
        ∀ m' ∈ post, findRev m'.version w.revs = none
  ele : e ≤ 1
  journal : Stutter k (flat pre ++ (headStmts rest).take (a + e)) w.journal
  paid : k + e ≤ w.wfails

theorem DInv.head_le {H : Text → String} {pre rest : List MFile} {w : World} {a e k : Nat}
    (inv : DInv H pre rest w a e k) : a + e ≤ (headStmts rest).length := by
  cases rest with
  | nil => have := inv.cur; simp only at this; omega
  | cons m post => exact inv.cur.2.1

theorem DInv.cur_unfinished {H : Text → String} {pre post : List MFile} {m : MFile} {w : World} {a e k : Nat}
    (inv : DInv H pre (m :: post) w a e k) {r : Revision} (h : findRev m.version w.revs = some r) :
    r.applied < r.total := by
  obtain ⟨hrec, _, hst, _⟩ := inv.cur
  rcases hrec with ⟨hn, _⟩ | ⟨r', h1, h2, h3, _⟩
  · rw [hn] at h; cases h
  · rw [h] at h1; cases h1
    rcases hst with hlt | hn
    · rw [h2, h3]; exact hlt
    · rw [hn] at h; cases h

theorem Complete.of_other {revs revs' : List Revision} {m : MFile}
    (h : findRev m.version revs' = findRev m.version revs) (c : Complete revs m) : Complete revs' m := by
  obtain ⟨r, h1, h2, h3⟩ := c
  exact ⟨r, by rw [h, h1], h2, h3⟩

/-- `e = 1`: statement `a` had been executed without being recorded; it is executed again right after itself. -/
theorem stutter_file {k a e n : Nat} {base J ss : List Text} (he : e ≤ 1) (hen : e ≤ n)
    (hn : a + n ≤ ss.length) (h : Stutter k (base ++ ss.take (a + e)) J) :
    Stutter (k + e) (base ++ ss.take (a + n)) (J ++ (ss.drop a).take n) := by
  match e, n, he, hen with  -- `he`, `hen` leave these two cases
  | 0, n, _, _ =>
    rw [List.take_add, ← List.append_assoc]
    exact h.append _
  | 1, n + 1, _, _ =>
    have ha : a < ss.length := by omega
    rw [List.take_succ_eq_append_getElem ha, ← List.append_assoc] at h
    have := (Stutter.rep ss[a] h).append ((ss.drop (a + 1)).take n)
    rw [List.drop_eq_getElem_cons ha, List.take_succ_cons, show a + (n + 1) = a + 1 + n by omega,
      List.take_add, List.take_succ_eq_append_getElem ha]
    simpa using this

theorem DInv.frame {H : Text → String} {pre post : List MFile} {m : MFile} {w w1 : World} {a e k : Nat}
    (hnd : ((pre ++ m :: post).map (·.version)).Nodup) (inv : DInv H pre (m :: post) w a e k)
    (hoth : ∀ v, v ≠ m.version → findRev v w1.revs = findRev v w.revs) :
    (∀ m' ∈ pre, Complete w1.revs m') ∧ ∀ m' ∈ post, findRev m'.version w1.revs = none :=
  ⟨fun m' hm' => (inv.done m' hm').of_other (hoth _ (key_ne_mid _ hnd m' (List.mem_append_left _ hm'))),
   fun m' hm' => (hoth _ (key_ne_mid _ hnd m' (List.mem_append_right _ hm'))).trans (inv.cur.2.2.2 m' hm')⟩

theorem dinv_advance {H : Text → String} {pre post : List MFile} {m : MFile} {w w1 : World} {a e k k' : Nat}
    (hnd : ((pre ++ m :: post).map (·.version)).Nodup)
    (inv : DInv H pre (m :: post) w a e k)
    (hoth : ∀ v, v ≠ m.version → findRev v w1.revs = findRev v w.revs)
    (hc : Complete w1.revs m)
    (hj : Stutter k' (flat pre ++ m.stmts) w1.journal) (hk : k' ≤ w1.wfails) :
    DInv H (pre ++ [m]) post w1 0 0 k' := by
  obtain ⟨hdone, hpost⟩ := DInv.frame hnd inv hoth
  refine ⟨?_, ?_, Nat.zero_le 1, by simpa [flat_append, flat_single] using hj, hk⟩
  · intro m' hm'
    rcases List.mem_append.mp hm' with h | h
    · exact hdone m' h
    · rw [List.mem_singleton.mp h]; exact hc
  · cases post with
    | nil => exact ⟨rfl, rfl⟩
    | cons m2 post2 =>
      have hn2 := hpost m2 (List.mem_cons_self ..)
      exact ⟨Or.inl ⟨hn2, rfl⟩, Nat.zero_le _, Or.inr hn2, fun m' hm' => hpost m' (List.mem_cons_of_mem _ hm')⟩

/-- `Props.C09.inv_step` for an arbitrary split; `pre`, `a`, `e`, `k` generalised for the induction. -/
theorem execFiles_inv {H : Text → String} {pre rest : List MFile} {w : World} {a e k : Nat}
    (hnd : ((pre ++ rest).map (·.version)).Nodup) (inv : DInv H pre rest w a e k) :
    ∃ pre' rest' a' e' k', pre' ++ rest' = pre ++ rest ∧
      DInv H pre' rest' (execFiles true H rest w).1 a' e' k' ∧
      ((execFiles true H rest w).2 = .ok → rest' = []) ∧
      (execFiles true H rest w).2 ≠ .panic ∧
      (∀ i b, (execFiles true H rest w).2 ≠ .historyChanged i b) ∧
      (w.faults = [] → (execFiles true H rest w).2 = .ok) := by
  fun_induction execFiles true H rest w generalizing pre a e k with
  | case1 w => exact ⟨pre, [], a, e, k, rfl, inv, fun _ => rfl, nofun, nofun, fun _ => rfl⟩
  | case2 m post w w1 hE ih =>
    obtain ⟨hrec, hae, hst, _⟩ := inv.cur
    have hal : a ≤ m.stmts.length := Nat.le_trans (Nat.le_add_right a e) hae
    obtain ⟨hoth, hfl, hshape⟩ := hE ▸ execute_spec H w m a hrec hal hst
    obtain ⟨_, s2, s3, s4⟩ :
        _ ∧ w1.journal = w.journal ++ m.stmts.drop a ∧ w1.wfails = w.wfails ∧ Complete w1.revs m :=
      hshape.resolve_right fun h => h.1 rfl
    have hj1 := stutter_file (n := m.stmts.length - a) inv.ele (Nat.le_sub_of_add_le' hae)
      (Nat.le_of_eq (Nat.add_sub_of_le hal))
      (inv.journal : Stutter k (flat pre ++ m.stmts.take (a + e)) w.journal)
    rw [Nat.add_sub_of_le hal, List.take_length, List.take_of_length_le (by simp), ← s2] at hj1
    obtain ⟨pre', rest', a', e', k', h1, h2, h3, h4, h5, h6⟩ :=
      ih (by simpa using hnd) (dinv_advance hnd inv hoth s4 hj1 (s3 ▸ inv.paid))
    exact ⟨pre', rest', a', e', k', by rw [h1]; simp, h2, h3, h4, h5, fun hf => h6 (hfl ▸ hf)⟩
  | case3 m post w w1 res hne hE =>
    -- the run stopped in this file, after `t + e'` more statements
    obtain ⟨hrec, hae, hst, _⟩ := inv.cur
    have hal : a ≤ m.stmts.length := Nat.le_trans (Nat.le_add_right a e) hae
    have hele := inv.ele
    have hpaid := inv.paid
    have hjr : Stutter k (flat pre ++ m.stmts.take (a + e)) w.journal := inv.journal
    obtain ⟨hoth, hfl, hshape⟩ := hE ▸ execute_spec H w m a hrec hal hst
    dsimp only at hoth hfl hshape
    obtain ⟨s1, s2, s3, s4, t, e', s5, s6, s7, s8, s9⟩ := hshape.resolve_left fun h => hne h.1
    suffices h : ∃ pre' rest' a' e' k', pre' ++ rest' = pre ++ m :: post ∧ DInv H pre' rest' w1 a' e' k' by
      obtain ⟨pre', rest', a', e', k', h1, h2⟩ := h
      exact ⟨pre', rest', a', e', k', h1, h2, fun h => absurd h s1, s2, s3, fun hf => absurd hf s4⟩
    by_cases hen : e ≤ t + e'
    · have hj1 := stutter_file hele hen (by omega) hjr
      rw [← s7, ← Nat.add_assoc] at hj1
      rcases s9 with ⟨hrec', hst'⟩ | ⟨hL, rfl, hc⟩
      · obtain ⟨hdone, hpost⟩ := DInv.frame hnd inv hoth
        exact ⟨pre, m :: post, a + t, e', k + e, rfl, hdone, ⟨hrec', s6, hst', hpost⟩, s5, hj1,
          Nat.le_trans (Nat.add_le_add_right hpaid e') s8⟩
      · -- complete although the final write failed
        rw [Nat.add_zero, hL, List.take_length] at hj1
        exact ⟨pre ++ [m], post, 0, 0, k + e, by simp, dinv_advance hnd inv hoth hc hj1 (Nat.le_trans hpaid s8)⟩
    · -- nothing ran
      have ht : t = 0 := by omega
      have he' : e' = 0 := by omega
      subst ht he'
      rw [List.take_zero, List.append_nil] at s7
      rcases s9 with ⟨hrec', hst'⟩ | ⟨hL, _, _⟩
      · obtain ⟨hdone, hpost⟩ := DInv.frame hnd inv hoth
        exact ⟨pre, m :: post, a, e, k, rfl, hdone, ⟨hrec', hae, hst', hpost⟩, hele, s7 ▸ hjr, Nat.le_trans hpaid s8⟩
      · omega

end Atlas.Exec

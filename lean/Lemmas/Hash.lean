/-
The directory-integrity model (`Atlas.Hash`): what the entries of `NewHashFile` determine, the header sum,
and when `Validate` accepts.
-/
import Atlas.Hash
import Lemmas.SortBy

namespace Atlas.Hash

/-- two distinct inputs with the same hash. -/
def Collision (H : Bytes → Bytes) : Prop := ∃ x y : Bytes, x ≠ y ∧ H x = H y

theorem Collision.of_eq {H : Bytes → Bytes} {x y : Bytes} (h : H x = H y) : x = y ∨ Collision H :=
  if hc : x = y then .inl hc else .inr ⟨x, y, hc, h⟩

/-- no file of the list carries the `atlas:sum ignore` directive. -/
def NoIgnore (fs : List DFile) : Prop := ∀ f ∈ fs, sumIgnore f.content = false

theorem newHashFileFrom_noIgnore_cons (H : Bytes → Bytes) (acc : Bytes) (f : DFile) (fs : List DFile)
    (h : sumIgnore f.content = false) :
    newHashFileFrom H acc (f :: fs) =
      (f.name, H (acc ++ f.name ++ f.content)) :: newHashFileFrom H (acc ++ f.name ++ f.content) fs := by
  simp [newHashFileFrom, h]

theorem entries_injective {H : Bytes → Bytes} {fs fs' : List DFile} {acc : Bytes} (h : NoIgnore fs) (h' : NoIgnore fs')
    (heq : newHashFileFrom H acc fs = newHashFileFrom H acc fs') : fs = fs' ∨ Collision H := by
  induction fs generalizing fs' acc with
  | nil =>
    cases fs' with
    | nil => exact .inl rfl
    | cons g gs => rw [newHashFileFrom_noIgnore_cons H acc g gs (h' g (List.mem_cons_self ..))] at heq; cases heq
  | cons f fs ih =>
    have ⟨hf, hfs⟩ := List.forall_mem_cons.mp h
    cases fs' with
    | nil => rw [newHashFileFrom_noIgnore_cons H acc f fs hf] at heq; cases heq
    | cons g gs =>
      have ⟨hg, hgs⟩ := List.forall_mem_cons.mp h'
      rw [newHashFileFrom_noIgnore_cons H acc f fs hf, newHashFileFrom_noIgnore_cons H acc g gs hg] at heq
      injection heq with he hrest
      injection he with hn hh
      rcases Collision.of_eq hh with hb | hc
      · -- the same bytes were hashed: same content, and the rest is hashed from the same running prefix
        have hfg : f = g := by
          cases f; cases g; cases hn; cases List.append_cancel_left hb; rfl
        rw [hb] at hrest
        exact (ih hfs hgs hrest).imp_left (by rw [hfg]; exact congrArg _)
      · exact .inr hc

theorem newHashFileFrom_mem {H : Bytes → Bytes} {fs : List DFile} {acc : Bytes} {e : Entry}
    (he : e ∈ newHashFileFrom H acc fs) : ∃ f ∈ fs, ∃ x, e = (f.name, H x) := by
  fun_induction newHashFileFrom H acc fs with
  | case1 => cases he
  | case2 acc f fs _ ih => exact (ih he).imp fun g hg => ⟨List.mem_cons_of_mem f hg.1, hg.2⟩
  | case3 acc f fs _ ih =>
    rcases List.mem_cons.mp he with h | h
    · exact ⟨f, List.mem_cons_self .., _, h⟩
    · exact (ih h).imp fun g hg => ⟨List.mem_cons_of_mem f hg.1, hg.2⟩

theorem entries_hash_length {H : Bytes → Bytes} {L : Nat} (hL : ∀ x, (H x).length = L) (fs : List DFile) (acc : Bytes) :
    ∀ e ∈ newHashFileFrom H acc fs, e.2.length = L := fun _ he =>
  let ⟨_, _, x, hx⟩ := newHashFileFrom_mem he
  hx ▸ hL x

theorem newHashFileFrom_names (H : Bytes → Bytes) (acc : Bytes) {fs : List DFile} (h : NoIgnore fs) :
    (newHashFileFrom H acc fs).map (·.1) = fs.map (·.name) := by
  fun_induction newHashFileFrom H acc fs with
  | case1 => rfl
  | case2 acc f fs hf _ => exact absurd hf (by rw [h f (List.mem_cons_self ..)]; decide)
  | case3 acc f fs _ ih => rw [List.map_cons, List.map_cons, ih (List.forall_mem_cons.mp h).2]

theorem concatEntries_cons (e : Entry) (es : List Entry) :
    concatEntries (e :: es) = e.1 ++ e.2 ++ concatEntries es := by
  simp [concatEntries]

/-- hashes of one fixed length: the concatenation is parsed in lockstep. -/
theorem concat_same_names {L : Nat} {es es' : List Entry} (hn : es.map (·.1) = es'.map (·.1))
    (hl : ∀ e ∈ es, e.2.length = L) (hl' : ∀ e ∈ es', e.2.length = L)
    (hc : concatEntries es = concatEntries es') : es = es' := by
  induction es generalizing es' with
  | nil => cases es' with
    | nil => rfl
    | cons _ _ => simp at hn
  | cons e es ih =>
    cases es' with
    | nil => simp at hn
    | cons e' es' =>
      simp only [List.map_cons, List.cons.injEq] at hn
      rw [concatEntries_cons, concatEntries_cons, hn.1, List.append_assoc, List.append_assoc] at hc
      have ⟨he, hes⟩ := List.forall_mem_cons.mp hl
      have ⟨he', hes'⟩ := List.forall_mem_cons.mp hl'
      have ⟨h2, hrest⟩ := List.append_inj (List.append_cancel_left hc) (he.trans he'.symm)
      rw [Prod.ext hn.1 h2, ih hn.2 hes hes' hrest]

theorem concatEntries_length (es : List Entry) :
    (concatEntries es).length = (es.map (fun e => e.1.length + e.2.length)).sum := by
  induction es with
  | nil => rfl
  | cons e es ih => rw [concatEntries_cons, List.length_append, List.length_append, ih, List.map_cons, List.sum_cons]

theorem writeSum_of_files_eq (H : Bytes → Bytes) {d d' : List DFile} (h : files d = files d') :
    writeSum H d = writeSum H d' := by
  unfold writeSum
  rw [h]

theorem validate_of_files_eq (H : Bytes → Bytes) {d d' : List DFile} (h : files d = files d') (sum : Option Bytes) :
    validate H d sum = validate H d' sum := by
  unfold validate
  rw [h]

theorem classify_ne_ok (ac ex : List Entry) (i pos : Nat) (rest : List Entry) :
    classify ac ex i pos rest ≠ .ok := by
  fun_induction classify ac ex i pos rest with
  | case3 _ _ _ _ _ ih => exact ih  -- an unchanged entry: the loop goes on
  | _ => exact Outcome.noConfusion   -- every exit of the loop is a checksum error or the panic

theorem validate_unreadable {H : Bytes → Bytes} {b : Bytes} {e : Err} (dir : List DFile)
    (hu : unmarshal H b = .error e) : validate H dir (some b) = .err e := by
  simp only [validate, hu]

theorem validate_some_eq_ok (H : Bytes → Bytes) (dir : List DFile) (b : Bytes) :
    validate H dir (some b) = .ok ↔
      ∃ ac, unmarshal H b = .ok ac ∧ sumOf H ac = sumOf H (newHashFile H (files dir)) := by
  cases hu : unmarshal H b with
  | error e =>
    simp only [validate, hu]
    exact ⟨nofun, fun ⟨_, h, _⟩ => nomatch h⟩
  | ok ac =>
    simp only [validate, hu, bne_iff_ne, ne_eq, ite_not]
    split
    · next hs => exact ⟨fun _ => ⟨ac, rfl, hs⟩, fun _ => rfl⟩
    · next hs =>
      exact ⟨fun h => absurd h (classify_ne_ok _ _ _ _ _), fun ⟨_, h, hs'⟩ => absurd (Except.ok.inj h ▸ hs') hs⟩

/-! ### order and sorting: `bytesLt` is core's `List.lt` over `UInt8`, `sortFiles` the insertion sort of
`Lemmas/SortBy` by name -/

theorem bytesLt_iff_lt (a b : Bytes) : bytesLt a b = true ↔ a < b := by
  fun_induction bytesLt a b with
  | case1 | case2 | case3 => simp
  | case4 as bs a b h => simp [List.cons_lt_cons_iff, h]
  | case5 as bs a b h h' => simp [List.cons_lt_cons_iff, h, (UInt8.ne_of_lt h').symm]
  | case6 as bs a b h h' ih =>
    cases UInt8.le_antisymm (UInt8.not_lt.mp h') (UInt8.not_lt.mp h)
    simp [ih]

theorem bytesLt_irrefl (a : Bytes) : bytesLt a a = false :=
  Bool.eq_false_iff.mpr fun h => List.lt_irrefl a ((bytesLt_iff_lt a a).mp h)

theorem bytesLt_trans {a b c : Bytes} (h1 : bytesLt a b = true) (h2 : bytesLt b c = true) : bytesLt a c = true :=
  (bytesLt_iff_lt a c).mpr (List.lt_trans ((bytesLt_iff_lt a b).mp h1) ((bytesLt_iff_lt b c).mp h2))

theorem bytesLt_asymm {a b : Bytes} (h : bytesLt a b = true) : bytesLt b a = false :=
  Bool.eq_false_iff.mpr fun h' => List.lt_asymm ((bytesLt_iff_lt a b).mp h) ((bytesLt_iff_lt b a).mp h')

theorem bytesLt_total {a b : Bytes} (h : a ≠ b) : bytesLt a b = true ∨ bytesLt b a = true := by
  rw [bytesLt_iff_lt, bytesLt_iff_lt]
  exact (List.le_total a b).imp (Std.lt_of_le_of_ne · h) (Std.lt_of_le_of_ne · (Ne.symm h))

/-- the comparison of `insertSorted` (Atlas/Hash.lean); `sortFiles_eq_sortBy` ties it. -/
abbrev nameLt (f g : DFile) : Bool := bytesLt f.name g.name

theorem nameLt_trans (f g h : DFile) : nameLt f g = true → nameLt g h = true → nameLt f h = true := bytesLt_trans

theorem nameLt_asymm (f g : DFile) : nameLt f g = true → nameLt g f = false := bytesLt_asymm

theorem cmp_of_names_nodup {l : List DFile} (h : (l.map (·.name)).Nodup) : l.Pairwise (Sort.Cmp nameLt) :=
  (List.pairwise_map.mp h).imp bytesLt_total

theorem insertSorted_eq_insertBy : insertSorted = Sort.insertBy nameLt := by
  funext f l
  induction l with
  | nil => rfl
  | cons g gs ih => simp only [insertSorted, Sort.insertBy, ih]

theorem sortFiles_eq_sortBy (l : List DFile) : sortFiles l = Sort.sortBy nameLt l := by
  rw [sortFiles, insertSorted_eq_insertBy]
  rfl

theorem sortFiles_perm (l : List DFile) : (sortFiles l).Perm l :=
  sortFiles_eq_sortBy l ▸ Sort.sortBy_perm nameLt l

theorem sortFiles_sorted {l : List DFile} (h : (l.map (·.name)).Nodup) : (sortFiles l).Pairwise (nameLt · · = true) :=
  sortFiles_eq_sortBy l ▸ Sort.sortBy_sorted nameLt_trans l (cmp_of_names_nodup h)

/-! ### a trailing `atlas:sum ignore` file (`Props.C06.ignore_tail_invisible`): no entry, listed last -/

theorem newHashFileFrom_append_ignored (H : Bytes → Bytes) (g : DFile) (hg : sumIgnore g.content = true)
    (fs : List DFile) (acc : Bytes) : newHashFileFrom H acc (fs ++ [g]) = newHashFileFrom H acc fs := by
  induction fs generalizing acc with
  | nil => simp [newHashFileFrom, hg]
  | cons f fs ih => rw [List.cons_append, newHashFileFrom, newHashFileFrom, ih, ih]

theorem files_append_last (dir : List DFile) (f : DFile) (hs : hasSqlExt f.name = true)
    (hlt : ∀ g ∈ dir, hasSqlExt g.name = true → bytesLt g.name f.name = true) :
    files (dir ++ [f]) = files dir ++ [f] := by
  unfold files
  rw [List.filter_append, List.filter_cons_of_pos (by simpa using hs), List.filter_nil, sortFiles_eq_sortBy,
    sortFiles_eq_sortBy]
  exact Sort.sortBy_append_last nameLt f _ fun g hg =>
    hlt g (List.mem_filter.mp hg).1 (by simpa using (List.mem_filter.mp hg).2)

end Atlas.Hash

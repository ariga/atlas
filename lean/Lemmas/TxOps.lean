/-
Operation lists of the transaction model (C10, C13), no migration files yet: `applyOps` on operations without
transaction control, `crashAt` / `runAll` over `++`, and `block`, the operations of one file that runs in a
transaction of its own or in none.
-/
import Atlas.Tx

namespace Atlas.Tx

/-- operations that neither open nor end a transaction. -/
def Op.plain : Op → Bool
  | .stmt _ _ | .fail _ _ | .rev _ _ | .locked _ => true
  | _ => false

/-- operations that cannot end a transaction: plain ones and BEGIN. -/
def Op.quiet : Op → Bool
  | .begin => true
  | o => o.plain

/-- what an operation does to a database when no transaction is open. -/
def durApply (d : Db) : Op → Db
  | .stmt f i => d.addStmt f i
  | .rev f r => d.setRev f r
  | _ => d

theorem applyOps_nil (s : St) : applyOps s [] = s := rfl
theorem applyOps_cons (s : St) (o : Op) (ops : List Op) : applyOps s (o :: ops) = applyOps (applyOp s o) ops := rfl
theorem applyOps_append (s : St) (a b : List Op) : applyOps s (a ++ b) = applyOps (applyOps s a) b := by
  simp [applyOps, List.foldl_append]

theorem Op.quiet_of_plain {o : Op} (h : o.plain = true) : o.quiet = true := by
  cases o <;> first | rfl | exact h

/-- plain operations go to the view the connection sees (`St.write`). -/
theorem applyOp_plain {op : Op} (h : op.plain = true) (s : St) : applyOp s op = s.write (durApply · op) := by
  obtain ⟨d, _ | w⟩ := s <;> cases op <;> first | rfl | cases h

theorem applyOps_plain (ops : List Op) (s : St) (h : ∀ op ∈ ops, op.plain = true) :
    applyOps s ops = s.write (ops.foldl durApply) := by
  induction ops generalizing s with
  | nil => obtain ⟨d, _ | w⟩ := s <;> rfl
  | cons op rest ih =>
    rw [applyOps_cons, applyOp_plain (h op (List.mem_cons_self ..)), ih _ (fun o ho => h o (List.mem_cons_of_mem _ ho))]
    obtain ⟨d, _ | w⟩ := s <;> rfl

theorem applyOps_plain_closed {ops : List Op} {d : Db} (h : ∀ op ∈ ops, op.plain = true) :
    applyOps { dur := d, work := none } ops = { dur := ops.foldl durApply d, work := none } :=
  applyOps_plain ops _ h

theorem applyOps_plain_open_eq {ops : List Op} {d w : Db} (h : ∀ op ∈ ops, op.plain = true) :
    applyOps { dur := d, work := some w } ops = { dur := d, work := some (ops.foldl durApply w) } :=
  applyOps_plain ops _ h

theorem applyOps_plain_open (ops : List Op) (d w : Db) (h : ∀ op ∈ ops, op.plain = true) :
    ∃ w', applyOps { dur := d, work := some w } ops = { dur := d, work := some w' } :=
  ⟨_, applyOps_plain_open_eq h⟩

theorem applyOps_quiet_open {ops : List Op} (h : ∀ op ∈ ops, op.quiet = true) (d w : Db) :
    ∃ w', applyOps { dur := d, work := some w } ops = { dur := d, work := some w' } := by
  induction ops generalizing w with
  | nil => exact ⟨w, rfl⟩
  | cons op rest ih =>
    have hq := h op (List.mem_cons_self ..)
    cases op <;> first | exact ih (fun o ho => h o (List.mem_cons_of_mem _ ho)) _ | cases hq

/-- quiet operations that start with BEGIN (or none at all) keep the durable state. -/
theorem applyOps_quiet_closed (ops : List Op) (d : Db) (h : ∀ op ∈ ops, op.quiet = true)
    (hb : ops = [] ∨ ops.head? = some Op.begin) : (applyOps { dur := d, work := none } ops).dur = d := by
  cases ops with
  | nil => rfl
  | cons op rest =>
    rcases hb with hb | hb
    · cases hb
    · cases Option.some.inj hb
      obtain ⟨w', hw⟩ := applyOps_quiet_open (fun o ho => h o (List.mem_cons_of_mem _ ho)) d d
      show (applyOps { dur := d, work := some d } rest).dur = d
      rw [hw]

theorem crashAt_append_left {d : Db} {a b : List Op} {k : Nat} (hk : k ≤ a.length) :
    crashAt d (a ++ b) k = crashAt d a k := by
  unfold crashAt; rw [List.take_append_of_le_length hk]

/-- behind a part that ran completely and left no transaction open. -/
theorem crashAt_append_right {d d' : Db} {a : List Op} (ha : applyOps { dur := d } a = { dur := d' })
    (b : List Op) {k : Nat} (hk : a.length ≤ k) :
    crashAt d (a ++ b) k = crashAt d' b (k - a.length) := by
  unfold crashAt; rw [List.take_append, List.take_of_length_le hk, applyOps_append, ha]

theorem crashAt_of_length_le {d : Db} {ops : List Op} {k : Nat} (hk : ops.length ≤ k) :
    crashAt d ops k = runAll d ops := by
  unfold crashAt runAll; rw [List.take_of_length_le hk]

theorem runAll_append {d d' : Db} {a : List Op} (ha : applyOps { dur := d } a = { dur := d' }) (b : List Op) :
    runAll d (a ++ b) = runAll d' b := by
  unfold runAll; rw [applyOps_append, ha]

theorem runAll_of_closed {d d' : Db} {a : List Op} (ha : applyOps { dur := d } a = { dur := d' }) : runAll d a = d' := by
  unfold runAll; rw [ha]; rfl

/-- one transaction - BEGIN, plain operations, one closing operation: before the closing operation nothing is
durable. -/
theorem tx_crash {ops : List Op} (hp : ∀ op ∈ ops, op.plain = true) {d : Db} {last : Op} {k : Nat}
    (hk : k < (Op.begin :: ops ++ [last]).length) : crashAt d (Op.begin :: ops ++ [last]) k = d := by
  show crashAt d ((Op.begin :: ops) ++ [last]) k = d
  rw [crashAt_append_left (by simp at hk ⊢; omega)]
  cases k with
  | zero => rfl
  | succ k =>
    show (applyOps { dur := d, work := some d } (ops.take k)).dur = d
    rw [applyOps_plain_open_eq (fun o ho => hp o (List.mem_of_mem_take ho))]

/-- operations of one file from a closed connection: in a transaction of its own (mode `file`), committed if the
file succeeded and rolled back if not, or bare. With it the loop has ONE step equation for `file` and `none` files
(`planFiles_cons`), hence one induction for every mix of them. -/
def block (m : Option Mode) (ops : List Op) (ok : Bool) : List Op :=
  if m = some .file then Op.begin :: ops ++ [if ok then Op.commit else Op.rollback] else ops

theorem block_file (ops : List Op) (ok : Bool) :
    block (some .file) ops ok = Op.begin :: ops ++ [if ok then Op.commit else Op.rollback] := rfl

theorem block_bare {m : Option Mode} (hm : m ≠ some .file) (ops : List Op) (ok : Bool) : block m ops ok = ops :=
  if_neg hm

theorem block_run {m : Option Mode} {ops : List Op} {ok : Bool} (hp : ∀ op ∈ ops, op.plain = true) (d : Db) :
    applyOps { dur := d } (block m ops ok) =
      { dur := if m = some .file ∧ ok = false then d else ops.foldl durApply d } := by
  by_cases hm : m = some .file
  · subst hm
    show applyOps { dur := d, work := some d } (ops ++ [_]) = _
    rw [applyOps_append, applyOps_plain_open_eq hp]
    cases ok <;> rfl
  · rw [block_bare hm, if_neg (fun h => hm h.1)]
    exact applyOps_plain_closed hp

/-- a crash inside the block - or anywhere, if the file fails: nothing of the file in mode `file`, the operations
performed so far otherwise. -/
theorem block_crash {m : Option Mode} {ops : List Op} {ok : Bool} (hp : ∀ op ∈ ops, op.plain = true) {d : Db}
    {k : Nat} (hk : k < (block m ops ok).length ∨ ok = false) :
    crashAt d (block m ops ok) k = if m = some .file then d else (ops.take k).foldl durApply d := by
  by_cases hm : m = some .file
  · rw [if_pos hm]
    by_cases hlt : k < (block m ops ok).length
    · subst hm
      rw [block_file] at hlt ⊢
      exact tx_crash hp hlt
    · rw [crashAt_of_length_le (Nat.le_of_not_lt hlt), runAll_of_closed (block_run hp d),
        if_pos ⟨hm, hk.resolve_left hlt⟩]
  · unfold crashAt
    rw [block_bare hm, if_neg hm, applyOps_plain_closed (fun o ho => hp o (List.mem_of_mem_take ho))]; rfl

end Atlas.Tx

/-
The inductions over the fuel of `scanLoop` / `stmt` / `bodyLoop`, resting on `step_spec`: what a run
guarantees (`scanLoop_spec`, `stmt_spec`, `bodyLoop_le`) and that the result of `scan` does not depend on the
fuel (`stable`, `scanAll_stable`, `scanWith_min`, `scan_outcome`).
-/
import Lemmas.LexStep

namespace Atlas.Lex
open Atlas.Bytes

theorem stable_from {α : Type} (f : Nat → α) (F : Nat) (h : ∀ n, F ≤ n → f (n + 1) = f n) (k : Nat) :
    f (F + k) = f F := by
  induction k with
  | zero => rfl
  | succ k ih => rw [← Nat.add_assoc, h _ (Nat.le_add_right ..), ih]

theorem rem_skipSpaces_le (s : St) : rem (skipSpaces s) ≤ s.input.length :=
  Nat.le_trans (Nat.sub_le ..) (skipSpaces_length_le s)

/-- `BodyOK` for every `bodyLoop` with fuel below `F`. -/
def BodiesOK (fixed : Bool) (o : Opts) (F : Nat) : Prop :=
  ∀ n, n < F → BodyOK fixed (fun a d b => bodyLoop fixed o a d n b)

/-- The thresholds `3·rem + 1`, `3·len + 2`, `3·len + 3` (also in `Stable`): one unit each for
`scanLoop → bodyLoop → stmt` per nesting level, a nested scanner starts on at least one byte less
(3·(rem−1)+3 = 3·rem), `+1/+2/+3` is the place in that cycle; the factor 3 is what lets one threshold
serve `Stable` too. -/
def LoopSpec (src : Bytes) (fixed : Bool) (o : Opts) (F : Nat) (s : St) : St × Sum Bytes Out → Prop
  | (s', .inl text) =>
    (s.delim ≠ [] → (rem s' + 1 ≤ rem s ∨ (0 < s.pos ∧ rem s' = 0)) ∧ s'.delim ≠ []) ∧
    (LoopInv src s → BodiesOK fixed o F →
      LoopInv src s' ∧ text = s'.input.take s'.pos ∧ off src s ≤ off src s')
  | (_, .inr out) => (out = .fuel → F < 3 * rem s + 1) ∧ (out = .panic → fixed = false)

theorem scanLoop_spec (src : Bytes) (fixed : Bool) (o : Opts) : ∀ (F : Nat) (s : St) (d op : Nat),
    LoopSpec src fixed o F s (scanLoop fixed o F s d op) := by
  intro F
  induction F with
  | zero => exact fun s d op => ⟨fun _ => Nat.succ_pos _, nofun⟩
  | succ n ih =>
    intro s d op
    rw [scanLoop]
    have hp := step_spec src fixed o (fun a d b => bodyLoop fixed o a d n b) s d op
    revert hp
    cases step fixed o (fun a d b => bodyLoop fixed o a d n b) s d op with
    | cont s1 d1 op1 =>
      intro hp
      have ih1 := ih s1 d1 op1
      revert ih1
      simp only
      rcases scanLoop fixed o n s1 d1 op1 with ⟨s', text | out⟩
      · intro ih1
        refine ⟨fun hd => ⟨.inl ?_, (ih1.1 (hp.2.le.delim hd)).2⟩, fun li hb => ?_⟩
        · have := hp.1
          rcases (ih1.1 (hp.2.le.delim hd)).1 with r | ⟨_, r⟩ <;> omega
        · obtain ⟨li1, hoff⟩ := hp.2.inv li
          obtain ⟨r1, r2, r3⟩ := ih1.2 li1 fun m hm => hb m (Nat.lt_succ_of_lt hm)
          exact ⟨r1, r2, Nat.le_trans hoff r3⟩
      · intro ih1
        exact ⟨fun hf => by have := ih1.1 hf; have := hp.1; omega, ih1.2⟩
    | brk s1 t1 =>
      intro hp
      exact ⟨hp.1, fun li hb => hp.2 li (hb n (Nat.lt_succ_self n))⟩
    | ret s1 out =>
      intro hp
      exact ⟨fun h => absurd h hp.1, hp.2⟩

def StmtSpec (src : Bytes) (fixed : Bool) (o : Opts) (F : Nat) (s : St) : St × Sum Out Stmt → Prop
  | (s', .inr st) =>
    (s.delim ≠ [] → s'.pos = 0 ∧ s'.input.length + 1 ≤ s.input.length ∧ s'.delim ≠ []) ∧
    (Inv src s → BodiesOK fixed o F → Inv src s' ∧ s'.pos = 0 ∧ StmtOK src (off src s) (off src s') st)
  | (_, .inl out) => (out = .fuel → F < 3 * s.input.length + 2) ∧ (out = .panic → fixed = false)

theorem stmt_spec (src : Bytes) (fixed : Bool) (o : Opts) (F : Nat) (s : St) (hp : s.pos = 0) :
    StmtSpec src fixed o F s (stmt fixed o F s) := by
  cases F with
  | zero => exact ⟨fun _ => Nat.succ_pos _, nofun⟩
  | succ n =>
    rw [stmt]
    have hl := scanLoop_spec src fixed o n (skipSpaces s) 0 0
    have hrem := rem_skipSpaces_le s
    revert hl
    rcases scanLoop fixed o n (skipSpaces s) 0 0 with ⟨s1, text | out⟩
    · intro hl
      refine ⟨fun hd => ?_, fun inv hb => ?_⟩
      · obtain ⟨r1, r2⟩ := hl.1 hd
        obtain ⟨e1, e2, e3⟩ := emit_shape o s1 text
        refine ⟨e1, ?_, e3 ▸ r2⟩
        show (emit o s1 text).1.input.length + 1 ≤ s.input.length
        rw [e2]
        rcases r1 with r1 | ⟨r1, _⟩
        · omega
        · exact absurd hp (Nat.ne_of_gt r1)  -- the cursor was at 0
      · obtain ⟨li1, htext, hoff1⟩ := hl.2 ⟨skipSpaces_inv inv hp, skipSpaces_lead s⟩
          fun m hm => hb m (Nat.lt_succ_of_lt hm)
        subst htext
        obtain ⟨e1, e2, e3⟩ := emit_ok (o := o) li1
        have hoff0 : off src s ≤ off src (skipSpaces s) := off_le_of_length_le inv (skipSpaces_length_le s)
        exact ⟨e1, e2, Nat.le_trans (Nat.le_trans hoff0 hoff1) e3.lo_le, e3.le_hi, e3.found⟩
    · intro hl
      exact ⟨fun hf => by have := hl.1 hf; omega, hl.2⟩

/-- with `init_inv` this makes every `bodyLoop` a sound oracle. -/
theorem bodyLoop_le (o : Opts) : ∀ (F : Nat) {src : Bytes} {b : St} {a : Bool} {d : Bytes} {t : Nat},
    Inv src b → b.pos = 0 → bodyLoop true o a d F b = some t → t ≤ src.length := by
  intro F
  induction F using Nat.strongRecOn with
  | _ F ih =>
    intro src b a d t inv hp h
    cases F with
    | zero => cases h
    | succ n =>
      -- `bodiesOK` below, from the IH
      have hb : BodiesOK true o n := fun m hm a d nsrc b t hi h =>
        ih m (Nat.lt_succ_of_lt hm) (init_inv hi) (init_ok hi).1 h
      rw [bodyLoop] at h
      have hs := stmt_spec src true o n b hp
      revert hs h
      rcases Lex.stmt true o n b with ⟨b1, out | st⟩
      · intro h; cases h
      · intro h hs
        obtain ⟨i1, p1, _⟩ := hs.2 inv hb
        have htot : b1.total ≤ src.length := by
          have := i1.total; have := i1.len; simp only [off] at *; omega
        simp only at h
        split at h
        · split at h
          · cases h; exact htot
          · exact ih n (Nat.lt_succ_self n) i1 p1 h
        · exact ih n (Nat.lt_succ_self n) i1 p1 h

theorem bodiesOK (o : Opts) (F : Nat) : BodiesOK true o F := fun n _ _ _ _ _ _ hi h =>
  bodyLoop_le o n (init_inv hi) (init_ok hi).1 h

theorem stmt_prog {fixed : Bool} {o : Opts} {F : Nat} {s s' : St} {st : Stmt}
    (h : stmt fixed o F s = (s', .inr st)) (hp : s.pos = 0) (hd : s.delim ≠ []) :
    s'.pos = 0 ∧ s'.input.length + 1 ≤ s.input.length ∧ s'.delim ≠ [] := by
  have := stmt_spec [] fixed o F s hp  -- the progress half does not mention `src`
  rw [h] at this
  exact this.1 hd

/-! ### more fuel changes nothing

A nested `bodyLoop` out of fuel answers `none`, which `beginBlock` reads as "not a block": no fuel outcome
shows, so `scanLoop_spec` is not the whole story (`Stable.body`, `step_congr`). -/

/-- with at least `3·rem + c` units, one more unit of fuel gives the same result. -/
structure Stable (fixed : Bool) (o : Opts) (F : Nat) : Prop where
  loop : ∀ (s : St) (d op : Nat), 3 * rem s + 1 ≤ F → s.delim ≠ [] →
    scanLoop fixed o (F + 1) s d op = scanLoop fixed o F s d op
  stmt : ∀ (s : St), s.pos = 0 → 3 * s.input.length + 2 ≤ F → s.delim ≠ [] →
    Lex.stmt fixed o (F + 1) s = Lex.stmt fixed o F s
  body : ∀ (a : Bool) (dl : Bytes) (b : St), b.pos = 0 → 3 * b.input.length + 3 ≤ F → b.delim ≠ [] →
    bodyLoop fixed o a dl (F + 1) b = bodyLoop fixed o a dl F b

theorem stable (fixed : Bool) (o : Opts) : ∀ F, Stable fixed o F := by
  intro F
  induction F with
  | zero =>
    refine ⟨?_, ?_, ?_⟩
    · intro s d op h; exact absurd h (Nat.not_succ_le_zero _)
    · intro s _ h; exact absurd h (Nat.not_succ_le_zero _)
    · intro a dl b _ h; exact absurd h (Nat.not_succ_le_zero _)
  | succ n ih =>
    refine ⟨?_, ?_, ?_⟩
    · intro s d op hF hd
      have hagree : ∀ r, r + 1 ≤ rem s →
          BodyAgree fixed (fun a d b => bodyLoop fixed o a d (n + 1) b) (fun a d b => bodyLoop fixed o a d n b) r := by
        intro r hr a dl nsrc b hl hi
        obtain ⟨b1, b2, b3⟩ := init_shape hi
        exact ih.body a dl b b1 (by omega) b3
      have hc := step_congr (o := o) hagree d op
      have hp := step_spec [] fixed o (fun a d b => bodyLoop fixed o a d n b) s d op
      rw [scanLoop, scanLoop, hc]
      revert hp
      cases step fixed o (fun a d b => bodyLoop fixed o a d n b) s d op with
      | cont s1 d1 op1 =>
        intro hp
        simp only
        exact ih.loop s1 d1 op1 (by have := hp.1; omega) (hp.2.le.delim hd)
      | brk s1 t1 => intro _; rfl
      | ret s1 out => intro _; rfl
    · intro s hp hF hd
      have := rem_skipSpaces_le s
      rw [Lex.stmt, Lex.stmt, ih.loop (skipSpaces s) 0 0 (by omega) hd]
    · intro a dl b hp hF hd
      rw [bodyLoop, bodyLoop, ih.stmt b hp (by omega) hd]
      rcases hs : Lex.stmt fixed o n b with ⟨b1, res⟩
      cases res with
      | inl e => rfl
      | inr st =>
        obtain ⟨p1, p2, p3⟩ := stmt_prog hs hp hd
        simp only
        rw [ih.body a dl b1 p1 (by omega) p3]

/-- `n`: one iteration per input byte and one for the end. The second conjunct (no `k`, `m`) rides on the
same induction. -/
theorem scanAll_stable (fixed : Bool) (o : Opts) : ∀ (n : Nat) (s : St) (acc : List Stmt) (F : Nat),
    s.pos = 0 → s.delim ≠ [] → 3 * s.input.length + 2 ≤ F → s.input.length + 1 ≤ n → ∀ k m,
    scanAll fixed o (F + k) (n + m) s acc = scanAll fixed o F n s acc ∧
    ∀ out, scanAll fixed o F n s acc = .inl out → out ≠ .fuel ∧ out ≠ .eof ∧ (out = .panic → fixed = false) := by
  intro n
  induction n with
  | zero => intro s acc F _ _ _ h; exact absurd h (Nat.not_succ_le_zero _)
  | succ n ih =>
    intro s acc F hp hd hF hn k m
    have hst := stable_from (fun F => stmt fixed o F s) F fun n hn =>
      (stable fixed o n).stmt s hp (Nat.le_trans hF hn) hd
    rw [Nat.add_right_comm n 1 m, scanAll, scanAll, hst k]
    rcases hs : stmt fixed o F s with ⟨s1, res⟩
    cases res with
    | inr st =>
      obtain ⟨p1, p2, p3⟩ := stmt_prog hs hp hd
      exact ih s1 (st :: acc) F p1 p3 (by omega)
        (Nat.le_of_succ_le_succ (Nat.le_trans (Nat.succ_le_succ p2) hn)) k m
    | inl out =>
      have ho := stmt_spec [] fixed o F s hp
      rw [hs] at ho
      cases out with
      | eof => exact ⟨rfl, nofun⟩
      | err => exact ⟨rfl, fun _ h => by cases h; exact ⟨nofun, nofun, nofun⟩⟩
      | panic => exact ⟨rfl, fun _ h => by cases h; exact ⟨nofun, nofun, ho.2⟩⟩
      | fuel => exact absurd (ho.1 rfl) (Nat.not_lt.mpr hF)

theorem fuelFor_ge (input : Bytes) : 3 * input.length + 2 ≤ fuelFor input := by
  unfold fuelFor
  have : (input.length + 3) * 3 ≤ (input.length + 3) * (input.length + 3) :=
    Nat.mul_le_mul_left _ (by omega)
  omega

/-- any sufficient bounds give the result at the thresholds `3·len + 2`, `len + 1`. -/
theorem scanWith_min (fixed : Bool) (o : Opts) (src : Bytes) (F n : Nat)
    (hF : 3 * src.length + 2 ≤ F) (hn : src.length + 1 ≤ n) :
    (∀ out, scanWith fixed o F n src = .inl out → out ≠ .fuel ∧ out ≠ .eof ∧ (out = .panic → fixed = false)) ∧
    scanWith fixed o F n src = scanWith fixed o (3 * src.length + 2) (src.length + 1) src := by
  unfold scanWith
  cases hi : init fixed src with
  | none => exact ⟨fun _ h => by cases h; exact ⟨nofun, nofun, nofun⟩, rfl⟩
  | some s =>
    obtain ⟨p1, p2, p3⟩ := init_shape hi
    simp only
    have ⟨e, r1⟩ := scanAll_stable fixed o (src.length + 1) s [] (3 * src.length + 2) p1 p3
      (Nat.add_le_add_right (Nat.mul_le_mul_left 3 p2) 2) (Nat.succ_le_succ p2)
      (F - (3 * src.length + 2)) (n - (src.length + 1))
    rw [Nat.add_sub_of_le hF, Nat.add_sub_of_le hn] at e
    rw [e]
    exact ⟨r1, rfl⟩

theorem scan_outcome (fixed : Bool) (o : Opts) (src : Bytes) (out : Out) (h : scan fixed o src = .inl out) :
    out ≠ .fuel ∧ out ≠ .eof ∧ (out = .panic → fixed = false) := by
  rw [scan_eq_scanWith] at h
  exact (scanWith_min fixed o src _ _ (fuelFor_ge src) (by omega)).1 out h

/-! ### the private fuel of the inner loops -/

theorem skipQuoteLoop_stable (q : UInt8) (e : Bool) (f : Nat) (s : St) : rem s + 1 ≤ f →
    skipQuoteLoop q e (f + 1) s = skipQuoteLoop q e f s := by
  fun_induction skipQuoteLoop q e f s with
  | case1 => intro hf; omega
  | case2 _ _ _ hn => intro _; rw [skipQuoteLoop, hn]
  | case3 _ _ s1 _ hn hc ih =>
    intro hf
    have := strict_of_next hn nofun
    have := (next_moved s1).le.rem
    rw [skipQuoteLoop, hn]; simp only [hc, if_true]; exact ih (by omega)
  | case4 _ _ _ _ hn hc hq =>
    intro _; rw [skipQuoteLoop, hn]; simp only [hc, hq, if_true, Bool.false_eq_true, if_false]
  | case5 _ _ _ _ hn hc hq ih =>
    intro hf
    have := strict_of_next hn nofun
    rw [skipQuoteLoop, hn]; simp only [hc, hq]; exact ih (by omega)
  | case6 _ _ _ hn ih =>
    intro hf
    have := strict_of_next hn nofun
    rw [skipQuoteLoop, hn]; exact ih (by omega)

theorem dollarLoop_stable (m : Bytes) (f : Nat) (s : St) : rem s + 1 ≤ f →
    dollarLoop m (f + 1) s = dollarLoop m f s := by
  fun_induction dollarLoop m f s with
  | case1 => intro hf; omega
  | case2 _ _ _ hn => intro _; rw [dollarLoop, hn]
  | case3 _ _ _ _ hn hc => intro _; rw [dollarLoop, hn]; simp only [hc, if_true]
  | case4 _ _ _ _ hn hc ih =>
    intro hf
    have := strict_of_next hn nofun
    rw [dollarLoop, hn]; simp only [hc]; exact ih (by omega)
  | case5 _ _ _ hn ih =>
    intro hf
    have := strict_of_next hn nofun
    rw [dollarLoop, hn]; exact ih (by omega)

end Atlas.Lex

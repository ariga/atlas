/-
One iteration of the `Scan:` loop (`Atlas.Lex.step`), specified once: `SwitchSpec` for the `switch` after a
successful `next` (one lemma per case function), `StepSpec` for the whole iteration (`step_spec`).
`step_congr`: the nested-scanner oracle is consulted only on shorter inputs.
-/
import Lemmas.Lex

namespace Atlas.Lex
open Atlas.Bytes

/-- `s'` is a later state of the same scan: `Le`, and the loop invariant carries over, further on in `src`. -/
structure Adv (src : Bytes) (s s' : St) : Prop where
  le : Le s s'
  inv : LoopInv src s → LoopInv src s' ∧ off src s ≤ off src s'

theorem Adv.refl (src : Bytes) (s : St) : Adv src s s := ⟨Le.refl s, fun li => ⟨li, Nat.le_refl _⟩⟩

theorem Adv.trans {src : Bytes} {a b c : St} (h1 : Adv src a b) (h2 : Adv src b c) : Adv src a c :=
  ⟨h1.le.trans h2.le, fun li => ⟨(h2.inv (h1.inv li).1).1, Nat.le_trans (h1.inv li).2 (h2.inv (h1.inv li).1).2⟩⟩

theorem Moved.adv {s s' : St} (m : Moved s s') (src : Bytes) : Adv src s s' :=
  ⟨m.le, fun li => ⟨⟨m.inv li.inv, m.input ▸ li.lead⟩, Nat.le_of_eq (m.off src).symm⟩⟩

theorem cut_adv (src : Bytes) (s : St) (c : List Bytes) :
    Adv src s (skipSpaces { s with input := s.input.drop s.pos, pos := 0, comments := c }) :=
  ⟨(reset_le s c).trans (skipSpaces_le _), fun li =>
    ⟨⟨skipSpaces_inv (reset_inv li.inv c) rfl, skipSpaces_lead _⟩,
      off_le_of_length_le li.inv (Nat.le_trans (skipSpaces_length_le _) (by simp))⟩⟩

theorem comment_adv (src : Bytes) (s : St) (leftLen : Nat) (right : Bytes) :
    Adv src s (comment s leftLen right) := by
  have h1 : ∀ i, indexOf right (s.input.drop s.pos) = some i → Adv src s (s.addPos (i + right.length)) := fun i hi => by
    have hle := indexOf_le hi
    rw [List.length_drop] at hle
    exact (addPos_moved s _ fun _ => by omega).adv src
  fun_cases comment with
  | case1 => exact .refl src s
  | case2 i hi => exact h1 i hi
  | case3 i hi _ s1 => exact (h1 i hi).trans (cut_adv src s1 _)

/-- a sound nested-scanner oracle: the nested `total` stays inside the nested source. -/
def BodyOK (fixed : Bool) (body : Bool → Bytes → St → Option Nat) : Prop :=
  ∀ (a : Bool) (d nsrc : Bytes) (b : St) (t : Nat), init fixed nsrc = some b → body a d b = some t → t ≤ nsrc.length

/-- the `switch`, relative to the state `s` after `next`, of which `1 ≤ s.width ≤ s.pos` is assumed (progress at
both breaks; the invariant only at the delimiter break). A `break` keeps the input and leaves the cursor past
where the rune just read started. -/
def SwitchSpec (src : Bytes) (fixed : Bool) (body : Bool → Bytes → St → Option Nat) (s : St) : Step → Prop
  | .cont s' _ _ => Adv src s s'
  | .brk s' t => 1 ≤ s.width → s.width ≤ s.pos →
    s'.input = s.input ∧ (s.delim ≠ [] → s'.delim ≠ [] ∧ s.pos - s.width < s'.pos) ∧
    (LoopInv src s → BodyOK fixed body → LoopInv src s' ∧ t = s'.input.take s'.pos ∧ off src s ≤ off src s')
  | .ret _ out => out ≠ .fuel ∧ (out = .panic → fixed = false)

/-- `delimCmd` gives up, or the scan goes on after `skipSpaces` (not a command: state untouched). -/
def DelimSpec (src : Bytes) (fixed : Bool) (s : St) : Sum Out St → Prop
  | .inl out => out ≠ .fuel ∧ (out = .panic → fixed = false)
  | .inr s' => Adv src s (skipSpaces s')

theorem delimCmd_spec (src : Bytes) (fixed : Bool) (o : Opts) (s : St) :
    DelimSpec src fixed s (delimCmd fixed o s) := by
  fun_cases delimCmd with
  | case1 =>
    -- not a command: nothing to skip, the input has no leading white space
    exact ⟨skipSpaces_le s, fun li => by rw [skipSpaces_eq_self (trimLeft_eq_self li.lead _)]; exact ⟨li, Nat.le_refl _⟩⟩
  | case2 _ _ _ _ hp =>
    simp only [Bool.and_eq_true, Bool.not_eq_true'] at hp
    exact ⟨nofun, fun _ => hp.2⟩
  | case3 => exact ⟨nofun, nofun⟩
  | case4 _ s1 _ _ _ _ s2 hs =>
    exact (((delimLoop_moved ..).trans (setDelim_moved hs)).adv src).trans (cut_adv src s2 [])

/-! ### the cases of the switch, last to first -/

theorem beginBlock_spec {src : Bytes} {fixed : Bool} {body : Bool → Bytes → St → Option Nat} {a : Bool} {s : St}
    {n d op : Nat} (hn : s.pos ≤ s.input.length → s.pos + (n - 1) ≤ s.input.length) :
    SwitchSpec src fixed body s (beginBlock fixed body a s n d op) := by
  have h1 : Adv src s (s.addPos (n - 1)) := (addPos_moved s _ hn).adv src
  fun_cases beginBlock with
  | case1 | case3 => exact h1
  | case2 s1 b hb t ht s2 =>
    refine fun _ _ => ⟨rfl, fun hd => ⟨hd, ?_⟩, fun li hbody => ?_⟩
    · show s.pos - s.width < s.pos + (n - 1) + t; omega
    -- the nested scanner's `total` is at most its input, which is what is left of ours
    have htl := hbody _ _ _ _ _ hb ht
    have hn := hn li.inv.bound
    rw [List.length_drop] at htl
    have h2 := (h1.trans ((addPos_moved s1 t fun _ => by
      simp only [s1, St.addPos] at htl hn ⊢; omega).adv src)).inv li
    exact ⟨h2.1, rfl, h2.2⟩

theorem stepE_spec (src : Bytes) (fixed : Bool) (o : Opts) (body : Bool → Bytes → St → Option Nat) (s : St)
    (d op : Nat) : SwitchSpec src fixed body s (stepE fixed o body s d op) := by
  fun_cases stepE with
  | case1 | case3 => exact Adv.refl src s
  | case2 _ n hn => exact beginBlock_spec fun hb => match_end hb (reBegin_le hn).2

theorem stepD_spec (src : Bytes) (fixed : Bool) (o : Opts) (body : Bool → Bytes → St → Option Nat) (s : St)
    (d op : Nat) : SwitchSpec src fixed body s (stepD fixed o body s d op) := by
  fun_cases stepD with
  | case1 => exact Adv.refl src s
  | case2 _ n hn => exact beginBlock_spec fun hb => match_end hb (reBeginAtomic_le hn).2
  | case3 => exact stepE_spec ..

theorem stepC_spec (src : Bytes) (fixed : Bool) (o : Opts) (body : Bool → Bytes → St → Option Nat) (s : St) (r : R)
    (d op : Nat) : SwitchSpec src fixed body s (stepC fixed o body s r d op) := by
  fun_cases stepC with
  | case1 => exact ⟨nofun, nofun⟩
  | case2 _ s' h => exact (skipDollarQuote_moved h).adv src
  | case3 => exact comment_adv ..
  | case4 | case5 => exact ((next_moved s).adv src).trans (comment_adv ..)
  | case6 => exact stepD_spec ..

/-- `total` at the delimiter break: back over the rune, forward over the delimiter, truncated. -/
theorem back_fwd {t p w d : Nat} (hw : w ≤ p) (hp : p ≤ t) : t + d - w + p = t + (p + d - w) := by
  have hwt := Nat.le_trans hw hp
  rw [Nat.sub_add_comm hwt, Nat.sub_add_comm hw, Nat.add_right_comm, ← Nat.sub_add_comm hwt,
    Nat.add_sub_assoc hw, Nat.add_assoc]

theorem stepB_spec (src : Bytes) (fixed : Bool) (o : Opts) (body : Bool → Bytes → St → Option Nat) (s : St) (r : R)
    (d op : Nat) : SwitchSpec src fixed body s (stepB fixed o body s r d op) := by
  fun_cases stepB with
  | case1 _ out h =>
    -- DELIMITER command gives up
    have := delimCmd_spec src fixed o (s.addPos 8)
    rw [h] at this
    exact this
  | case2 hc s' h =>
    -- DELIMITER command
    have := delimCmd_spec src fixed o (s.addPos 8)
    rw [h] at this
    simp only [Bool.and_eq_true, beq_iff_eq, decide_eq_true_eq] at hc
    exact ((addPos_moved s 8 fun _ => by omega).adv src).trans this
  | case3 _ hc s' =>
    -- the delimiter ends the statement
    refine fun _ hw => ⟨rfl, fun hd => ⟨hd, ?_⟩, fun li _ => ?_⟩
    · have : s.delim.length ≠ 0 := fun h0 => hd (List.eq_nil_of_length_eq_zero h0)
      show s.pos - s.width < s.pos + s.delim.length - s.width; omega
    simp only [Bool.and_eq_true] at hc
    have hle := hasPrefixAt_le hc.2 (Nat.le_trans (Nat.sub_le ..) li.inv.bound)
    have ht : s.pos ≤ s.total := li.inv.total ▸ Nat.le_add_left ..
    refine ⟨⟨li.inv.shift s' 0 (Nat.zero_le _) rfl (back_fwd hw ht) ?_, li.lead⟩, rfl, Nat.le_refl _⟩
    show s.pos + s.delim.length - s.width ≤ s.input.length
    rw [Nat.sub_add_comm hw]; exact hle
  | case4 => exact stepC_spec ..

theorem stepCh_spec (src : Bytes) (fixed : Bool) (o : Opts) (body : Bool → Bytes → St → Option Nat) (s : St) (r : R)
    (d op : Nat) : SwitchSpec src fixed body s (stepCh fixed o body s r d op) := by
  fun_cases stepCh with
  | case1 | case3 => exact Adv.refl src s
  | case2 | case4 | case6 => exact ⟨nofun, nofun⟩
  | case5 q s' h => exact (skipQuote_moved h).adv src
  | case7 => exact stepB_spec ..

/-! ### the whole iteration: `step` is `stepCh` after a successful `next` -/

theorem step_eos {fixed : Bool} {o : Opts} {body : Bool → Bytes → St → Option Nat} {s : St} {d op : Nat}
    (h : (next s).2 = .eos) :
    step fixed o body s d op =
      if d > 0 then .ret s .err else if s.pos > 0 then .brk s s.input else .ret s .eof := by
  unfold step
  rcases hn : next s with ⟨s1, r⟩
  rw [hn] at h
  cases h; cases (eos_of_next hn).1
  rfl

theorem step_ch {fixed : Bool} {o : Opts} {body : Bool → Bytes → St → Option Nat} {s : St} {d op : Nat}
    (h : (next s).2 ≠ .eos) :
    step fixed o body s d op = stepCh fixed o body (next s).1 (next s).2 d op := by
  unfold step
  rcases hn : next s with ⟨s1, r⟩
  rw [hn] at h
  cases r with
  | eos => exact absurd rfl h
  | ch b => rfl
  | other => rfl

/-- relative to the state the iteration started in: a byte is consumed, except by the end-of-input `break`
(then the cursor was not at 0). -/
def StepSpec (src : Bytes) (fixed : Bool) (body : Bool → Bytes → St → Option Nat) (s : St) : Step → Prop
  | .cont s' _ _ => rem s' + 1 ≤ rem s ∧ Adv src s s'
  | .brk s' t =>
    (s.delim ≠ [] → (rem s' + 1 ≤ rem s ∨ (0 < s.pos ∧ rem s' = 0)) ∧ s'.delim ≠ []) ∧
      (LoopInv src s → BodyOK fixed body →
        LoopInv src s' ∧ t = s'.input.take s'.pos ∧ off src s ≤ off src s')
  | .ret _ out => out ≠ .fuel ∧ (out = .panic → fixed = false)

theorem step_spec (src : Bytes) (fixed : Bool) (o : Opts) (body : Bool → Bytes → St → Option Nat) (s : St)
    (d op : Nat) : StepSpec src fixed body s (step fixed o body s d op) := by
  by_cases he : (next s).2 = .eos
  · rw [step_eos he]
    have hlen := (next_eos he).2
    split
    · exact ⟨nofun, nofun⟩
    · split
      · rename_i hp
        refine ⟨fun hd => ⟨.inr ⟨hp, by simp only [rem]; omega⟩, hd⟩, fun li _ => ⟨li, ?_, Nat.le_refl _⟩⟩
        have := li.inv.bound
        exact (List.take_of_length_le (by omega)).symm
      · exact ⟨nofun, nofun⟩
  · rw [step_ch he]
    have hstrict := next_strict he
    have m := next_moved s
    have hw := next_bounds he
    have hwp : (next s).1.width ≤ (next s).1.pos := by rw [hw.2.1]; exact Nat.le_add_left ..
    have h := stepCh_spec src fixed o body (next s).1 (next s).2 d op
    revert h  -- `cases` on the result must also rewrite it in the spec
    cases stepCh fixed o body (next s).1 (next s).2 d op with
    | cont s' d' op' =>
      intro h
      exact ⟨Nat.le_trans (Nat.succ_le_succ h.le.rem) hstrict, (m.adv src).trans h⟩
    | brk s' t =>
      intro h
      obtain ⟨hin, hdl, hinv⟩ := h hw.1 hwp
      refine ⟨fun hd => ⟨.inl ?_, (hdl (m.le.delim hd)).1⟩, fun li hb => ?_⟩
      · -- same input, and the cursor is past where the rune started
        have := (hdl (m.le.delim hd)).2
        simp only [rem, hin, m.input]; omega
      · have := hinv ⟨m.inv li.inv, m.input ▸ li.lead⟩ hb
        rwa [m.off] at this
    | ret s' out => exact id

/-- the two oracles agree on every nested source of at most `r` bytes. -/
def BodyAgree (fixed : Bool) (body1 body2 : Bool → Bytes → St → Option Nat) (r : Nat) : Prop :=
  ∀ (a : Bool) (dl nsrc : Bytes) (b : St), nsrc.length ≤ r → init fixed nsrc = some b → body1 a dl b = body2 a dl b

theorem beginBlock_congr {fixed : Bool} {body1 body2 : Bool → Bytes → St → Option Nat} {s : St}
    (h : BodyAgree fixed body1 body2 (rem s)) (a : Bool) (n d op : Nat) :
    beginBlock fixed body1 a s n d op = beginBlock fixed body2 a s n d op := by
  unfold beginBlock
  simp only
  cases hi : init fixed ((s.addPos (n - 1)).input.drop (s.addPos (n - 1)).pos) with
  | none => rfl
  | some b =>
    simp only
    rw [h a s.delim _ b ?_ hi]
    simp only [List.length_drop, rem, St.addPos]
    exact Nat.sub_le_sub_left (Nat.le_add_right ..) _

theorem stepCh_congr {fixed : Bool} {o : Opts} {body1 body2 : Bool → Bytes → St → Option Nat} {s : St}
    (h : BodyAgree fixed body1 body2 (rem s)) (r : R) (d op : Nat) :
    stepCh fixed o body1 s r d op = stepCh fixed o body2 s r d op := by
  -- the oracle occurs only in the two `beginBlock` calls, both on this `s`
  simp only [stepCh, stepB, stepC, stepD, stepE, beginBlock_congr h]

theorem step_congr {fixed : Bool} {o : Opts} {body1 body2 : Bool → Bytes → St → Option Nat} {s : St}
    (h : ∀ r, r + 1 ≤ rem s → BodyAgree fixed body1 body2 r) (d op : Nat) :
    step fixed o body1 s d op = step fixed o body2 s d op := by
  by_cases he : (next s).2 = .eos
  · rw [step_eos he, step_eos he]
  · rw [step_ch he, step_ch he]
    exact stepCh_congr (h _ (next_strict he)) ..

end Atlas.Lex

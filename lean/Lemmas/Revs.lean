/-
The revision table of `Atlas.Exec` as a list sorted by version: `findRev`, `upsert`, and what strict sortedness
gives. C09, C11, C12.
-/
import Atlas.Exec
import Lemmas.FindKey

namespace Atlas.Revision

theorem complete_not_partially (r : Revision) (h : r.applied = r.total) : r.partially = false := by
  simp [Revision.partially, h]

theorem resolved_not_partially (r : Revision) (h : r.resolved = true) : r.partially = false := by
  simp [Revision.partially, h]

end Atlas.Revision

namespace Atlas

theorem getLast?_of_map_eq {α β γ : Type} {f : α → γ} {g : β → γ} {l1 : List α} {l2 : List β} {a : α}
    (h : l1.map f = l2.map g) (hl : l1.getLast? = some a) : ∃ pre b, l2 = pre ++ [b] ∧ g b = f a := by
  have h1 : l2.getLast?.map g = some (f a) := by rw [← List.getLast?_map, ← h, List.getLast?_map, hl]; rfl
  obtain ⟨b, hb, hgb⟩ := Option.map_eq_some_iff.mp h1
  obtain ⟨pre, hpre⟩ := List.getLast?_eq_some_iff.mp hb
  exact ⟨pre, b, hpre, hgb⟩

end Atlas

namespace Atlas.Exec

/-! ### `findRev` -/

theorem findRev_cons (v : String) (x : Revision) (xs : List Revision) :
    findRev v (x :: xs) = if x.version = v then some x else findRev v xs := by
  unfold findRev
  rw [List.find?_cons]
  by_cases h : x.version = v
  · rw [if_pos h, beq_iff_eq.mpr h]
  · rw [if_neg h, beq_eq_false_iff_ne.mpr h]

theorem findRev_mem {v : String} {revs : List Revision} {r : Revision} (h : findRev v revs = some r) :
    r ∈ revs ∧ r.version = v :=
  find_key_some Revision.version (l := revs) h

theorem findRev_eq_none (v : String) (revs : List Revision) :
    findRev v revs = none ↔ v ∉ revs.map (·.version) :=
  find_key_eq_none Revision.version

/-! ### `upsert` -/

theorem findRev_upsert (r : Revision) (l : List Revision) (v : String) :
    findRev v (upsert r l) = if r.version = v then some r else findRev v l := by
  fun_induction upsert r l with
  | case1 => rw [findRev_cons]
  | case2 x xs hx =>
    rw [beq_iff_eq] at hx
    rw [findRev_cons, findRev_cons, hx]
    by_cases hv : r.version = v
    · rw [if_pos hv, if_pos hv]
    · rw [if_neg hv, if_neg hv, if_neg hv]
  | case3 x xs _ _ => rw [findRev_cons]
  | case4 x xs hx _ ih =>
    rw [beq_iff_eq] at hx
    rw [findRev_cons, findRev_cons, ih]
    by_cases hv : r.version = v
    · rw [if_pos hv, if_neg (hv ▸ hx), if_pos hv]
    · rw [if_neg hv, if_neg hv]

theorem findRev_upsert_self {v : String} {l : List Revision} {r : Revision} (h : findRev v l = some r)
    (v' : String) : findRev v' (upsert r l) = findRev v' l := by
  rw [findRev_upsert]
  by_cases h' : r.version = v'
  · rw [if_pos h', ← h', (findRev_mem h).2, h]
  · rw [if_neg h']

theorem mem_upsert {r x : Revision} {l : List Revision} (h : x ∈ upsert r l) : x = r ∨ x ∈ l := by
  fun_induction upsert r l with
  | case1 => exact Or.inl (List.mem_singleton.mp h)
  | case2 y ys _ => exact (List.mem_cons.mp h).imp_right (List.mem_cons_of_mem _)
  | case3 y ys _ _ => exact List.mem_cons.mp h
  | case4 y ys _ _ ih =>
    rcases List.mem_cons.mp h with rfl | h'
    · exact Or.inr (List.mem_cons_self ..)
    · exact (ih h').imp_right (List.mem_cons_of_mem _)

theorem upsert_sorted (r : Revision) (l : List Revision) (h : (l.map (·.version)).Pairwise (· < ·)) :
    ((upsert r l).map (·.version)).Pairwise (· < ·) := by
  fun_induction upsert r l with
  | case1 => exact List.pairwise_singleton _ _
  | case2 y ys heq =>
    rw [List.map_cons, List.pairwise_cons] at h ⊢
    exact (beq_iff_eq.mp heq) ▸ h
  | case3 y ys _ hlt =>
    rw [List.map_cons, List.pairwise_cons] at h
    rw [List.map_cons, List.map_cons, List.pairwise_cons, List.pairwise_cons]
    refine ⟨fun v hv => ?_, h⟩
    rcases List.mem_cons.mp hv with rfl | hv'
    · exact hlt
    · exact String.lt_trans hlt (h.1 v hv')
  | case4 y ys hne hnlt ih =>
    rw [List.map_cons, List.pairwise_cons] at h ⊢
    -- `hnlt : ¬ r.version < y.version` is `y.version ≤ r.version`
    have hyr : y.version < r.version := Std.lt_of_le_of_ne hnlt fun e => hne (beq_iff_eq.mpr e)
    refine ⟨fun v hv => ?_, ih h.2⟩
    obtain ⟨x, hx, rfl⟩ := List.mem_map.mp hv
    rcases mem_upsert hx with rfl | hx'
    · exact hyr
    · exact h.1 _ (List.mem_map_of_mem hx')

theorem upsert_end (r : Revision) (l : List Revision) (h : ∀ x ∈ l, x.version < r.version) :
    upsert r l = l ++ [r] := by
  fun_induction upsert r l with
  | case1 => rfl
  | case2 y ys heq => exact absurd (beq_iff_eq.mp heq) (String.ne_of_lt (h y (List.mem_cons_self ..)))
  | case3 y ys _ hlt => exact absurd hlt (String.lt_asymm (h y (List.mem_cons_self ..)))
  | case4 y ys _ _ ih => rw [ih fun x hx => h x (List.mem_cons_of_mem _ hx)]; rfl

theorem foldl_upsert_end : ∀ (rs acc : List Revision), ((acc ++ rs).map (·.version)).Pairwise (· < ·) →
    rs.foldl (fun acc r => upsert r acc) acc = acc ++ rs := by
  intro rs
  induction rs with
  | nil => intro acc _; rw [List.foldl_nil, List.append_nil]
  | cons r t ih =>
    intro acc h
    have hr : ∀ x ∈ acc, x.version < r.version := by
      rw [List.pairwise_map, List.pairwise_append] at h
      exact fun x hx => h.2.2 x hx r (List.mem_cons_self ..)
    rw [List.foldl_cons, upsert_end r acc hr, ih _ (by rwa [List.append_assoc]), List.append_assoc]
    rfl

/-! ### tables sorted by version -/

theorem sorted_ext {l1 l2 : List String} (h1 : l1.Pairwise (· < ·)) (h2 : l2.Pairwise (· < ·))
    (h : ∀ x, x ∈ l1 ↔ x ∈ l2) : l1 = l2 :=
  List.Perm.eq_of_pairwise (fun _ _ _ _ hab hba => absurd hba (String.lt_asymm hab)) h1 h2
    ((List.perm_ext_iff_of_nodup (h1.imp String.ne_of_lt) (h2.imp String.ne_of_lt)).mpr h)

theorem eq_of_version_eq {l : List Revision} (hs : (l.map (·.version)).Pairwise (· < ·)) {r r' : Revision}
    (hr : r ∈ l) (hr' : r' ∈ l) (hv : r.version = r'.version) : r = r' :=
  key_inj Revision.version (hs.imp String.ne_of_lt) r hr r' hr' hv

end Atlas.Exec

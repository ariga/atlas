/- `Atlas.Tidb.order` (sql/mysql/tidb.go: the stable sort by `priority`), from the lemmas of `List.mergeSort`:
sorted by priority, a permutation, stable (C04). -/
import Atlas.Tidb

namespace Atlas.Tidb

theorem le_trans (a b c : TCh) : le a b = true → le b c = true → le a c = true := by
  simp only [le, decide_eq_true_eq]; omega

theorem le_total (a b : TCh) : (le a b || le b a) = true := by
  simp only [le, Bool.or_eq_true, decide_eq_true_eq]; omega

theorem order_sorted (l : List TCh) : (order l).Pairwise (fun a b => priority a ≤ priority b) := by
  have := List.pairwise_mergeSort le_trans le_total l
  simpa [order, le] using this

theorem order_perm (l : List TCh) : (order l).Perm l := List.mergeSort_perm l le

theorem pairwise_le_of_priority_eq {l : List TCh} {k : Nat} (h : ∀ c ∈ l, priority c = k) :
    l.Pairwise (fun a b => le a b = true) :=
  List.pairwise_of_forall_mem_list fun a ha b hb => decide_eq_true (Nat.le_of_eq ((h a ha).trans (h b hb).symm))

/-- the `k`-part of `l` is `le`-sorted, so `mergeSort` keeps it as a sublist, of equal length. -/
theorem order_stable (l : List TCh) (k : Nat) :
    ((order l).filter (fun c => priority c = k)) = l.filter (fun c => priority c = k) := by
  have hys : (l.filter (fun c => priority c = k)).Pairwise (fun a b => le a b = true) :=
    pairwise_le_of_priority_eq (k := k) fun c hc => by simpa using (List.mem_filter.mp hc).2
  have hsub : (l.filter (fun c => priority c = k)).Sublist (order l) :=
    List.sublist_mergeSort le_trans le_total hys List.filter_sublist
  have h2 := hsub.filter (fun c => decide (priority c = k))
  rw [List.filter_filter] at h2
  simp only [Bool.and_self] at h2
  have hlen : ((order l).filter (fun c => decide (priority c = k))).length = (l.filter (fun c => decide (priority c = k))).length :=
    ((order_perm l).filter _).length_eq
  exact (h2.eq_of_length hlen.symm).symm

end Atlas.Tidb

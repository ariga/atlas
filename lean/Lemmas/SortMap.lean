/-
Soundness of the cycle detection of `sortMap` (sql/internal/sqlx/plan.go; `sortMap_inv`, `sortMap_rank`) and
which edges `dependencies` records (`dependencies_add/_drop`). Out of fuel the model's visit reports a cycle,
which only sends the planner down the `detachReferences` path: soundness needs no fuel argument. (C04)
-/
import Lemmas.FindKey
import Lemmas.SortBy

namespace Atlas.Sort

theorem snoc_split {α : Type} {l pre post : List α} {c p : α} (h : l ++ [c] = pre ++ p :: post) :
    (pre = l ∧ p = c) ∨ ∃ post', l = pre ++ p :: post' := by
  rcases List.eq_nil_or_concat post with rfl | ⟨post', z, rfl⟩
  · obtain ⟨h1, h2⟩ := List.append_inj' h rfl
    exact Or.inl ⟨h1.symm, (List.cons.inj h2).1.symm⟩
  · rw [List.concat_eq_append, ← List.cons_append, ← List.append_assoc] at h
    exact Or.inr ⟨post', (List.append_inj' h rfl).1⟩

/-- index = position, and every dependency of an entry occurs before it. -/
structure SInv (deps : Deps) (sorted : List (String × Nat)) : Prop where
  pos : ∀ as a bs, sorted = as ++ a :: bs → a.2 = as.length
  closed : ∀ as a bs, sorted = as ++ a :: bs → ∀ v ∈ deps.get a.1, v ∈ as.map (·.1)

theorem SInv.nil (deps : Deps) : SInv deps [] :=
  ⟨by intro as a bs h; cases as <;> simp at h, by intro as a bs h; cases as <;> simp at h⟩

theorem SInv.snoc {deps : Deps} {sorted : List (String × Nat)} {name : String} (h : SInv deps sorted)
    (hd : ∀ v ∈ deps.get name, v ∈ sorted.map (·.1)) : SInv deps (sorted ++ [(name, sorted.length)]) where
  pos as a bs heq := by
    rcases snoc_split heq with ⟨rfl, rfl⟩ | ⟨bs', h'⟩
    · rfl
    · exact h.pos as a bs' h'
  closed as a bs heq := by
    rcases snoc_split heq with ⟨rfl, rfl⟩ | ⟨bs', h'⟩
    · exact hd
    · exact h.closed as a bs' h'

theorem mem_keys_of_find? {β : Type} {l : List (String × β)} {k : String} {e : String × β}
    (h : l.find? (fun x => x.1 == k) = some e) : k ∈ l.map (·.1) :=
  List.mem_map.mpr ⟨e, find_key_some (α := String × β) Prod.fst h⟩

theorem lookup_isSome_mem {m : List (String × Nat)} {k : String} (h : (lookup m k).isSome = true) :
    k ∈ m.map (·.1) := by
  unfold lookup at h
  rw [Option.isSome_map] at h
  obtain ⟨e, he⟩ := Option.isSome_iff_exists.mp h
  exact mem_keys_of_find? he

theorem visit_sound (deps : Deps) : ∀ fuel,
    (∀ name st st', SInv deps st.sorted → visit deps fuel name st = (st', false) →
        st.sorted <+: st'.sorted ∧ SInv deps st'.sorted ∧ name ∈ st'.sorted.map (·.1)) ∧
    (∀ rs st st', SInv deps st.sorted → visitAll deps fuel rs st = (st', false) →
        st.sorted <+: st'.sorted ∧ SInv deps st'.sorted ∧ ∀ r ∈ rs, r ∈ st'.sorted.map (·.1)) := by
  intro fuel
  induction fuel with
  | zero =>
    refine ⟨fun name st st' _ h => ?_, fun rs st st' _ h => ?_⟩
    · cases (h : (st, true) = (st', false))
    · cases (h : (st, true) = (st', false))
  | succ fuel ih =>
    obtain ⟨ihV, ihA⟩ := ih
    refine ⟨?_, ?_⟩
    · intro name st st' hinv h
      rw [visit] at h
      split at h
      · rename_i hs
        cases h
        exact ⟨List.prefix_rfl, hinv, lookup_isSome_mem hs⟩
      · split at h
        · cases h
        · split at h
          · cases h
          · rename_i st1 hva
            cases h
            obtain ⟨hp, hinv1, hall⟩ := ihA _ { st with progress := name :: st.progress } st1 hinv hva
            refine ⟨List.prefix_append_of_prefix hp, hinv1.snoc hall, ?_⟩
            show name ∈ (st1.sorted ++ [(name, st1.sorted.length)]).map (·.1)
            rw [List.map_append]; exact List.mem_append_right _ (List.mem_singleton_self _)
    · intro rs st st' hinv h
      cases rs with
      | nil =>
        cases (h : (st, false) = (st', false))
        exact ⟨List.prefix_rfl, hinv, fun _ h => nomatch h⟩
      | cons r t =>
        rw [visitAll] at h
        split at h
        · cases h
        · rename_i st1 hv
          obtain ⟨hp1, hinv1, hr⟩ := ihV r st st1 hinv hv
          obtain ⟨hp2, hinv2, hall⟩ := ihA t st1 st' hinv1 h
          exact ⟨hp1.trans hp2, hinv2, List.forall_mem_cons.mpr ⟨(hp2.map _).mem hr, hall⟩⟩

theorem sortMapGo_sound {deps : Deps} {fuel : Nat} : ∀ (keys : List String) (st : DfsSt) (m : List (String × Nat)),
    SInv deps st.sorted → sortMapGo deps fuel keys st = some m →
    st.sorted <+: m ∧ SInv deps m ∧ ∀ k ∈ keys, k ∈ m.map (·.1) := by
  intro keys
  induction keys with
  | nil =>
    intro st m hinv h
    cases (h : some st.sorted = some m)
    exact ⟨List.prefix_rfl, hinv, fun _ h => nomatch h⟩
  | cons k t ih =>
    intro st m hinv h
    rw [sortMapGo] at h
    split at h
    · cases h
    · rename_i st1 hv
      obtain ⟨hp1, hinv1, hk⟩ := (visit_sound deps fuel).1 k st st1 hinv hv
      obtain ⟨hp2, hinv2, hall⟩ := ih st1 m hinv1 h
      exact ⟨hp1.trans hp2, hinv2, List.forall_mem_cons.mpr ⟨(hp2.map _).mem hk, hall⟩⟩

/-- **sortMap_inv**: a successful `sortMap` returns a table → index map that satisfies `SInv` and
covers every table that has dependencies. -/
theorem sortMap_inv (cs : List Ch) (m : List (String × Nat)) (h : sortMap cs = some m) :
    SInv (dependencies cs) m ∧ ∀ k ∈ (dependencies cs).map (·.1), k ∈ m.map (·.1) := by
  unfold sortMap at h
  simp only at h
  obtain ⟨_, h1, h3⟩ := sortMapGo_sound _ {} m (SInv.nil _) h
  exact ⟨h1, fun k hk => h3 k ((sortBy_perm _ _).mem_iff.mpr hk)⟩

theorem exists_first_key {l : List (String × Nat)} {k : String} (h : k ∈ l.map (·.1)) :
    ∃ a as bs, l = as ++ a :: bs ∧ a.1 = k ∧ l.find? (fun x => x.1 == k) = some a := by
  obtain ⟨x, hx, hxk⟩ := List.mem_map.mp h
  have hsome : (l.find? (fun x => x.1 == k)).isSome = true :=
    List.find?_isSome.mpr ⟨x, hx, beq_iff_eq.mpr hxk⟩
  obtain ⟨a, ha⟩ := Option.isSome_iff_exists.mp hsome
  obtain ⟨hak, as, bs, hl, -⟩ := List.find?_eq_some_iff_append.mp ha
  exact ⟨a, as, bs, hl, beq_iff_eq.mp hak, ha⟩

theorem lookup_lt {deps : Deps} {m : List (String × Nat)} (hinv : SInv deps m) {k v : String}
    (hk : k ∈ m.map (·.1)) (hv : v ∈ deps.get k) :
    ∃ i j, lookup m v = some i ∧ lookup m k = some j ∧ i < j := by
  obtain ⟨a, as, bs, hm, hak, ha⟩ := exists_first_key hk
  -- `v` occurs before the entry of `k`; take its first entry `y` there: it is the first in `m` as well
  obtain ⟨y, as1, as2, has, -, hy⟩ := exists_first_key (hinv.closed as a bs hm v (hak ▸ hv))
  have hfind : m.find? (fun y => y.1 == v) = some y := by
    rw [hm, List.find?_append, hy]; rfl
  refine ⟨y.2, a.2, by unfold lookup; rw [hfind]; rfl, by unfold lookup; rw [ha]; rfl, ?_⟩
  rw [hinv.pos as1 y (as2 ++ a :: bs) (by rw [hm, has, List.append_assoc]; rfl), hinv.pos as a bs hm, has,
    List.length_append, List.length_cons]
  exact Nat.lt_add_of_pos_right (Nat.succ_pos _)

/-! ### which edges `dependencies` records -/

/-- `d` records the edge `k → v`. -/
def Has (d : Deps) (k v : String) : Prop := v ∈ d.get k

theorem Deps.get_cons (k0 : String) (vs : List String) (r : Deps) (k : String) :
    Deps.get ((k0, vs) :: r) k = if k0 = k then vs else Deps.get r k := by
  unfold Deps.get
  rw [List.find?_cons]
  by_cases h : k0 = k
  · rw [if_pos h, show ((k0, vs).1 == k) = true from beq_iff_eq.mpr h]
  · rw [if_neg h, show ((k0, vs).1 == k) = false from beq_eq_false_iff_ne.mpr h]

theorem Deps.get_add (k v k' : String) (d : Deps) :
    (d.add k v).get k' = if k' = k then d.get k' ++ [v] else d.get k' := by
  induction d with
  | nil =>
    rw [Deps.add, Deps.get_cons]
    by_cases h : k = k'
    · rw [if_pos h, if_pos h.symm]; rfl
    · rw [if_neg h, if_neg (Ne.symm h)]
  | cons e t ih =>
    obtain ⟨k0, vs⟩ := e
    rw [Deps.add]
    by_cases hk : k0 = k
    · rw [if_pos (beq_iff_eq.mpr hk), Deps.get_cons, Deps.get_cons, hk]
      by_cases h : k = k'
      · simp only [if_pos h, if_pos h.symm]
      · simp only [if_neg h, if_neg (Ne.symm h)]
    · rw [if_neg (by rwa [beq_iff_eq]), Deps.get_cons, Deps.get_cons, ih]
      by_cases h0 : k0 = k'
      · simp only [if_pos h0, if_neg (h0 ▸ hk)]
      · simp only [if_neg h0]

theorem Has.add_self {k v : String} {d : Deps} : Has (d.add k v) k v := by
  unfold Has; rw [Deps.get_add, if_pos rfl]; exact List.mem_append_right _ (List.mem_singleton_self v)

theorem Has.ite_add {c : Bool} {k v k0 v0 : String} {d : Deps} (h : Has d k0 v0) :
    Has (if c then d.add k v else d) k0 v0 := by
  split
  · unfold Has at h ⊢
    rw [Deps.get_add]
    split
    · exact List.mem_append_left _ h
    · exact h
  · exact h

theorem has_key {d : Deps} {k v : String} (h : Has d k v) : k ∈ d.map (·.1) := by
  unfold Has Deps.get at h
  cases hf : d.find? (fun x => x.1 == k) with
  | none => rw [hf] at h; cases h
  | some e => exact mem_keys_of_find? hf

theorem Has.foldl_of_mem {β : Type} {f : Deps → β → Deps} {k v : String} (mono : ∀ {d b}, Has d k v → Has (f d b) k v)
    {l : List β} {x : β} (hx : x ∈ l) (hstep : ∀ d, Has (f d x) k v) (d : Deps) : Has (l.foldl f d) k v := by
  obtain ⟨l1, l2, rfl⟩ := List.append_of_mem hx
  rw [List.foldl_append, List.foldl_cons]
  exact List.foldlRecOn (motive := fun d => Has d k v) l2 f (hstep _) fun _ hd _ _ => mono hd

/-- the step of `dependencies` (Atlas/Sort.lean), copied verbatim: `dependencies_eq` is `rfl`. -/
def depStep (cs : List Ch) (d : Deps) (c : Ch) : Deps :=
  match c.kind with
  | .add => c.fks.foldl (fun d fk => if fk.ref != c.table then d.add c.table fk.ref else d) d
  | .drop => c.fks.foldl (fun d fk => if isDropped cs fk.ref then d.add fk.ref c.table else d) d
  | .modify => c.subs.foldl (fun d s =>
      match s with
      | .addFK fk => if fk.ref != c.table then d.add c.table fk.ref else d
      | .dropFK fk => if isDropped cs fk.ref then d.add fk.ref c.table else d
      | .other _ => d) d

theorem dependencies_eq (cs : List Ch) : dependencies cs = cs.foldl (depStep cs) [] := rfl

theorem depStep_mono {cs : List Ch} {d : Deps} {c : Ch} {k v : String} (h : Has d k v) : Has (depStep cs d c) k v := by
  unfold depStep
  split
  · exact List.foldlRecOn (motive := fun d => Has d k v) _ _ h fun _ hd _ _ => hd.ite_add
  · exact List.foldlRecOn (motive := fun d => Has d k v) _ _ h fun _ hd _ _ => hd.ite_add
  · refine List.foldlRecOn (motive := fun d => Has d k v) _ _ h fun _ hd s _ => ?_
    cases s with
    | addFK fk => exact hd.ite_add
    | dropFK fk => exact hd.ite_add
    | other _ => exact hd

/-- **dependencies_add**: a created table depends on every other table its foreign keys reference. -/
theorem dependencies_add (cs : List Ch) (c : Ch) (hc : c ∈ cs) (hk : c.kind = .add) (fk : FK)
    (hfk : fk ∈ c.fks) (hne : fk.ref ≠ c.table) : Has (dependencies cs) c.table fk.ref := by
  rw [dependencies_eq]
  refine Has.foldl_of_mem depStep_mono hc (fun d => ?_) []
  unfold depStep; rw [hk]
  refine Has.foldl_of_mem Has.ite_add hfk (fun d => ?_) d
  rw [if_pos (bne_iff_ne.mpr hne)]; exact Has.add_self

/-- **dependencies_drop**: a dropped table that is referenced by a foreign key of another dropped table
depends on (is dropped after) the table holding the key. -/
theorem dependencies_drop (cs : List Ch) (c : Ch) (hc : c ∈ cs) (hk : c.kind = .drop) (fk : FK)
    (hfk : fk ∈ c.fks) (hdr : isDropped cs fk.ref = true) : Has (dependencies cs) fk.ref c.table := by
  rw [dependencies_eq]
  refine Has.foldl_of_mem depStep_mono hc (fun d => ?_) []
  unfold depStep; rw [hk]
  refine Has.foldl_of_mem Has.ite_add hfk (fun d => ?_) d
  rw [if_pos hdr]; exact Has.add_self

theorem sortMap_rank {cs : List Ch} {m : List (String × Nat)} (hsm : sortMap cs = some m) {k v : String}
    (h : Has (dependencies cs) k v) : (lookup m v).getD 0 < (lookup m k).getD 0 := by
  obtain ⟨hinv, hkeys⟩ := sortMap_inv cs m hsm
  obtain ⟨i, j, hi, hj, hij⟩ := lookup_lt hinv (hkeys _ (has_key h)) h
  rw [hi, hj]; exact hij

end Atlas.Sort

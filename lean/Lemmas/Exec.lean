/-
`Atlas.Exec` (sql/migrate/migrate.go `Execute`, `exec`), in the order of `Execute`'s control flow; start from
`afterStart_cases`, `runStmts_eq` and `Kept` / `execute_kept` (frame facts of a whole `Execute`). C09, C12.
-/
import Lemmas.Revs

namespace Atlas.Exec

/-- two distinct texts with the same hash. -/
def Collision (H : Text → String) : Prop := ∃ x y : Text, x ≠ y ∧ H x = H y

@[simp] theorem sums_length (H : Text → String) (s : List Text) : (sums H s).length = s.length := by
  simp [sums]

theorem sums_get (H : Text → String) (s : List Text) (i : Nat) (h : i < s.length) :
    (sums H s)[i]?.getD "" = H (s.take (i + 1)).flatten := by
  simp [sums, h]

theorem prefix_of_sums {H : Text → String} {old new : List Text} {k : Nat}
    (hko : k ≤ old.length) (hkn : k ≤ new.length)
    (h : ∀ j, j < k → H (new.take (j + 1)).flatten = H (old.take (j + 1)).flatten) :
    new.take k = old.take k ∨ Collision H := by
  induction k with
  | zero => left; simp
  | succ n ih =>
    rcases ih (by omega) (by omega) (fun j hj => h j (by omega)) with hn | hc
    · by_cases heq : (new.take (n + 1)).flatten = (old.take (n + 1)).flatten
      · left
        rw [List.take_succ_eq_append_getElem (by omega : n < new.length),
          List.take_succ_eq_append_getElem (by omega : n < old.length), hn] at heq ⊢
        rw [List.flatten_concat, List.flatten_concat] at heq
        rw [List.append_cancel_left heq]
      · exact .inr ⟨_, _, heq, h n (by omega)⟩
    · exact .inr hc

/-! ### the two fault-eligible operations

Everything downstream matches on the pair an operation returns: the lemmas take `op … = (w1, failed)`. -/

theorem writeRevision_frame {w w1 : World} {r : Revision} {b : Bool} (h : writeRevision w r = (w1, b)) :
    w1.calls = w.calls ∧ w1.faults = w.faults ∧ w1.journal = w.journal := by
  unfold writeRevision World.op at h
  by_cases hf : w.tick ∈ w.faults <;> simp [hf] at h <;> simp [← h.1]

theorem writeRevision_ok {w w1 : World} {r : Revision} (h : writeRevision w r = (w1, false)) :
    w1.revs = upsert r w.revs ∧ w1.wfails = w.wfails := by
  unfold writeRevision World.op at h
  by_cases hf : w.tick ∈ w.faults <;> simp [hf] at h
  simp [← h]

theorem writeRevision_fail {w w1 : World} {r : Revision} (h : writeRevision w r = (w1, true)) :
    w1.revs = w.revs ∧ w1.wfails = w.wfails + 1 ∧ w.faults ≠ [] := by
  unfold writeRevision World.op at h
  by_cases hf : w.tick ∈ w.faults <;> simp [hf] at h
  simp [← h]
  exact List.ne_nil_of_mem hf

theorem execStmt_frame {w w1 : World} {s : Text} {b : Bool} (h : execStmt w s = (w1, b)) :
    w1.calls = w.calls ++ [s] ∧ w1.faults = w.faults ∧ w1.revs = w.revs ∧ w1.wfails = w.wfails := by
  unfold execStmt World.op at h
  by_cases hf : w.tick ∈ w.faults <;> simp [hf] at h <;> simp [← h.1]

theorem execStmt_ok {w w1 : World} {s : Text} (h : execStmt w s = (w1, false)) :
    w1.journal = w.journal ++ [s] := by
  unfold execStmt World.op at h
  by_cases hf : w.tick ∈ w.faults <;> simp [hf] at h
  simp [← h]

theorem execStmt_fail {w w1 : World} {s : Text} (h : execStmt w s = (w1, true)) :
    w1.journal = w.journal ∧ w.faults ≠ [] := by
  unfold execStmt World.op at h
  by_cases hf : w.tick ∈ w.faults <;> simp [hf] at h
  simp [← h]
  exact List.ne_nil_of_mem hf

theorem writeRevision_same {w w1 : World} {r : Revision} {b : Bool} {v : String}
    (hW : writeRevision w r = (w1, b)) (h : findRev v w.revs = some r) (v' : String) :
    findRev v' w1.revs = findRev v' w.revs := by
  cases b with
  | true => rw [(writeRevision_fail hW).1]
  | false => rw [(writeRevision_ok hW).1, findRev_upsert_self h]

theorem writeRevision_tick {w w1 : World} {r : Revision} {b : Bool} (h : writeRevision w r = (w1, b)) :
    w1.tick = w.tick + 1 := by
  unfold writeRevision World.op at h
  by_cases hf : w.tick ∈ w.faults <;> simp [hf] at h <;> simp [← h.1]

theorem execStmt_tick {w w1 : World} {s : Text} {b : Bool} (h : execStmt w s = (w1, b)) :
    w1.tick = w.tick + 1 := by
  unfold execStmt World.op at h
  by_cases hf : w.tick ∈ w.faults <;> simp [hf] at h <;> simp [← h.1]

/-! ### the hash check -/

/-- `none`: the indices from `i` on agree, as far as the fuel reaches; `inl x`: at the applied index `x ≥ i` they
differ or `sums` has ended; `inr`: some applied index has no recorded hash. -/
theorem checkLoop_spec (sm ph : List String) (k fuel i : Nat) :
    (checkLoop true sm ph k fuel i = none →
      ∀ j, i ≤ j → j < k → j < fuel + i → j < sm.length ∧ sm[j]?.getD "" = ph[j]?.getD "") ∧
    (∀ x, checkLoop true sm ph k fuel i = some (.inl x) →
      i ≤ x ∧ x < k ∧ (sm.length ≤ x ∨ sm[x]?.getD "" ≠ ph[x]?.getD "")) ∧
    (checkLoop true sm ph k fuel i = some (.inr ()) → ∃ x, x < k ∧ ph.length ≤ x) := by
  fun_induction checkLoop true sm ph k fuel i with
  | case1 i => exact ⟨fun _ j _ _ _ => by omega, nofun, nofun⟩
  | case2 fuel i hi _ h1 =>
    exact ⟨nofun, by rintro x ⟨⟩; exact ⟨Nat.le_refl _, hi, .inl h1⟩, nofun⟩
  | case3 fuel i hi _ h1 h2 => exact absurd h2 h1  -- the repaired comparison has refused this index already
  | case4 fuel i hi _ _ _ h2 => exact ⟨nofun, nofun, fun _ => ⟨i, hi, h2⟩⟩
  | case5 fuel i hi _ _ _ _ h3 =>
    exact ⟨nofun, by rintro x ⟨⟩; exact ⟨Nat.le_refl _, hi, .inr (bne_iff_ne.mp h3)⟩, nofun⟩
  | case6 fuel i hi _ _ h1 _ h3 ih =>
    obtain ⟨a, b, c⟩ := ih
    refine ⟨fun h j hij hjk hjf => ?_, fun x h => ⟨by have := (b x h).1; omega, (b x h).2⟩, c⟩
    by_cases hji : j = i
    · subst hji; exact ⟨by omega, by simpa using h3⟩
    · exact a h j (by omega) hjk (by omega)
  | case7 fuel i hi => exact ⟨fun _ j _ _ _ => by omega, nofun, nofun⟩

theorem checkLoop_some_inl {sm ph : List String} {k : Nat} :
    ∀ fuel i x, checkLoop true sm ph k fuel i = some (.inl x) → i ≤ x ∧ x < k :=
  fun fuel i x h => have ⟨a, b, _⟩ := (checkLoop_spec sm ph k fuel i).2.1 x h; ⟨a, b⟩

/-- `hlen` excludes the index panic on `PartialHashes`. -/
theorem afterStart_cases (H : Text → String) (w : World) (m : MFile) {r : Revision}
    (hlen : r.applied ≤ r.partialHashes.length) :
    (∃ i, i < r.applied ∧
      (m.stmts.length ≤ i ∨ (sums H m.stmts)[i]?.getD "" ≠ r.partialHashes[i]?.getD "") ∧
      afterStart true H w m r = deferred w r (.historyChanged (i + 1) false)) ∨
    ((∀ j, j < r.applied → j < m.stmts.length ∧ (sums H m.stmts)[j]?.getD "" = r.partialHashes[j]?.getD "") ∧
      afterStart true H w m r = runStmts true H w m r) := by
  unfold afterStart
  by_cases hk : r.applied > 0
  · rw [if_pos hk]
    have ⟨a, b, c⟩ := checkLoop_spec (sums H m.stmts) r.partialHashes r.applied (r.applied + 1) 0
    rw [sums_length] at a b
    rcases hc : checkLoop true (sums H m.stmts) r.partialHashes r.applied (r.applied + 1) 0 with _ | (x | u)
    · exact .inr ⟨fun j hj => a hc j (Nat.zero_le _) hj (by omega), rfl⟩
    · exact .inl ⟨x, (b x hc).2.1, (b x hc).2.2, rfl⟩
    · have ⟨x, h1, h2⟩ := c hc; omega
  · rw [if_neg hk]; exact .inr ⟨fun j hj => by omega, rfl⟩

theorem afterStart_recorded {H : Text → String} {w : World} {m : MFile} {r : Revision}
    (hle : r.applied ≤ m.stmts.length) (hp : r.partialHashes = (sums H m.stmts).take r.applied) :
    afterStart true H w m r = runStmts true H w m r := by
  rcases afterStart_cases H w m (by rw [hp, List.length_take, sums_length]; omega) with
    ⟨i, hi, hne, _⟩ | ⟨_, he⟩
  · rcases hne with hne | hne
    · omega
    · exact absurd (by rw [hp, List.getElem?_take_of_lt hi]) hne
  · exact he

/-! ### the statement loop, `deferred`, `runStmts` -/

theorem stmtLoop_res (sm : List String) (ss : List Text) (w : World) (r : Revision) :
    (stmtLoop sm ss w r).2.2 = .ok ∨ (stmtLoop sm ss w r).2.2 = .writeRev ∨
    (stmtLoop sm ss w r).2.2 = .stmt false := by
  fun_induction stmtLoop sm ss w r with
  | case1 => exact .inl rfl
  | case2 => exact .inr (.inr rfl)
  | case3 => exact .inr (.inl rfl)
  | case4 _ _ _ _ _ _ _ _ ih => exact ih

theorem stmtLoop_nofault (sm : List String) (ss : List Text) (w : World) (r : Revision)
    (h : w.faults = []) :
    (stmtLoop sm ss w r).2.2 = .ok ∧ (stmtLoop sm ss w r).1.journal = w.journal ++ ss ∧
    (stmtLoop sm ss w r).1.calls = w.calls ++ ss ∧ (stmtLoop sm ss w r).1.faults = [] ∧
    (stmtLoop sm ss w r).2.1.applied = r.applied + ss.length ∧
    (stmtLoop sm ss w r).2.1.total = r.total ∧ (stmtLoop sm ss w r).2.1.version = r.version := by
  fun_induction stmtLoop sm ss w r with
  | case1 => exact ⟨rfl, (List.append_nil _).symm, (List.append_nil _).symm, h, rfl, rfl, rfl⟩
  | case2 _ _ _ _ _ hE => exact absurd h (execStmt_fail hE).2
  | case3 _ _ _ _ _ hE _ hW => exact absurd ((execStmt_frame hE).2.1.trans h) (writeRevision_fail hW).2.2
  | case4 s rest w r w1 hE w2 hW ih =>
    obtain ⟨hc1, hf1, _, _⟩ := execStmt_frame hE
    have hj1 := execStmt_ok hE
    obtain ⟨hc2, hf2, hj2⟩ := writeRevision_frame hW
    obtain ⟨h1, h2, h3, h4, h5, h6, h7⟩ := ih (hf2.trans (hf1.trans h))
    refine ⟨h1, ?_, ?_, h4, ?_, h6, h7⟩
    · rw [h2, hj2, hj1]; exact List.append_assoc ..
    · rw [h3, hc2, hc1]; exact List.append_assoc ..
    · rw [h5]; exact (Nat.add_assoc ..).trans (congrArg _ (Nat.add_comm ..))

theorem deferred_ok {w w3 : World} {r : Revision} {b : Bool} (h : writeRevision w r = (w3, b)) :
    deferred w r .ok = (w3, if b then .writeRev else .ok) := by
  simp [deferred, h]

theorem deferred_stmt {w w3 : World} {r : Revision} {b c : Bool} (h : writeRevision w r = (w3, b)) :
    deferred w r (.stmt c) = (w3, .stmt b) := by
  simp [deferred, h]

theorem deferred_historyChanged {w w3 : World} {r : Revision} {b c : Bool} {i : Nat}
    (h : writeRevision w r = (w3, b)) : deferred w r (.historyChanged i c) = (w3, .historyChanged i b) := by
  simp [deferred, h]

theorem deferred_res (w : World) (r : Revision) {res : Res}
    (h : res ≠ .panic ∧ ∀ i b, res ≠ .historyChanged i b) :
    (deferred w r res).2 ≠ .panic ∧ ∀ i b, (deferred w r res).2 ≠ .historyChanged i b := by
  cases res with
  | panic => exact absurd rfl h.1
  | historyChanged i b => exact absurd rfl (h.2 i b)
  | writeRev | stmt _ => exact ⟨nofun, nofun⟩
  | ok => rcases hW : writeRevision w r with ⟨w3, _ | _⟩ <;> rw [deferred_ok hW] <;> exact ⟨nofun, nofun⟩

theorem runStmts_eq {H : Text → String} {w : World} {m : MFile} {r : Revision}
    (hle : r.applied ≤ m.stmts.length) :
    runStmts true H w m r =
      match stmtLoop (sums H m.stmts) (m.stmts.drop r.applied) w
          { r with total := m.stmts.length, hash := m.hash } with
      | (w, r, .ok) => deferred w { r with partialHashes := [] } .ok
      | (w, r, res) => deferred w r res := by
  unfold runStmts
  rw [if_neg (by omega)]
  rfl

theorem runStmts_res {H : Text → String} {w : World} {m : MFile} {r : Revision}
    (hle : r.applied ≤ m.stmts.length) :
    (runStmts true H w m r).2 ≠ .panic ∧ ∀ i b, (runStmts true H w m r).2 ≠ .historyChanged i b := by
  rw [runStmts_eq hle]
  have h3 := stmtLoop_res (sums H m.stmts) (m.stmts.drop r.applied) w
    { r with total := m.stmts.length, hash := m.hash }
  split
  · exact deferred_res _ _ ⟨nofun, nofun⟩
  · rename_i hL
    rw [hL] at h3
    exact deferred_res _ _ (by rcases h3 with h | h | h <;> cases h <;> exact ⟨nofun, nofun⟩)

theorem runStmts_nofault {H : Text → String} {w : World} {m : MFile} {r : Revision}
    (hle : r.applied ≤ m.stmts.length) (h : w.faults = []) :
    (runStmts true H w m r).2 = .ok ∧
    (runStmts true H w m r).1.journal = w.journal ++ m.stmts.drop r.applied ∧
    (runStmts true H w m r).1.calls = w.calls ++ m.stmts.drop r.applied ∧
    ∃ r', findRev r.version (runStmts true H w m r).1.revs = some r' ∧
      r'.applied = m.stmts.length ∧ r'.total = m.stmts.length ∧ r'.partialHashes = [] := by
  rw [runStmts_eq hle]
  have hs := stmtLoop_nofault (sums H m.stmts) (m.stmts.drop r.applied) w
    { r with total := m.stmts.length, hash := m.hash } h
  rcases hL : stmtLoop (sums H m.stmts) (m.stmts.drop r.applied) w
    { r with total := m.stmts.length, hash := m.hash } with ⟨w2, r2, res2⟩
  rw [hL] at hs
  obtain ⟨rfl, h2, h3, h4, h5, h6, h7⟩ := hs
  rcases hW : writeRevision w2 { r2 with partialHashes := [] } with ⟨w3, _ | _⟩
  · obtain ⟨hc3, _, hj3⟩ := writeRevision_frame hW
    dsimp only
    rw [deferred_ok hW]
    refine ⟨rfl, hj3.trans h2, hc3.trans h3, { r2 with partialHashes := [] }, ?_, ?_, h6, rfl⟩
    · rw [(writeRevision_ok hW).1, findRev_upsert, if_pos h7]
    · rw [h5, List.length_drop]; exact Nat.add_sub_of_le hle
  · exact absurd h4 (writeRevision_fail hW).2.2

theorem loadRev_some {w : World} {m : MFile} {r : Revision} (h : findRev m.version w.revs = some r) :
    loadRev w m = r := by
  unfold loadRev; rw [h]

theorem loadRev_none {w : World} {m : MFile} (h : findRev m.version w.revs = none) :
    loadRev w m = { version := m.version, desc := m.desc, typ := 2, total := m.stmts.length, hash := m.hash } := by
  unfold loadRev; rw [h]

theorem loadRev_version (w : World) (m : MFile) : (loadRev w m).version = m.version := by
  cases h : findRev m.version w.revs with
  | none => rw [loadRev_none h]
  | some r => rw [loadRev_some h]; exact (findRev_mem h).2

theorem executeFrom_fail {fixed : Bool} {H : Text → String} {w w1 : World} {m : MFile} {r : Revision}
    (h : writeRevision w r = (w1, true)) : executeFrom fixed H w m r = (w1, .writeRev) := by
  unfold executeFrom; rw [h]

theorem executeFrom_ok {fixed : Bool} {H : Text → String} {w w1 : World} {m : MFile} {r : Revision}
    (h : writeRevision w r = (w1, false)) : executeFrom fixed H w m r = afterStart fixed H w1 m r := by
  unfold executeFrom; rw [h]

theorem execFiles_cons_ok {fixed : Bool} {H : Text → String} {w w1 : World} {m : MFile} {post : List MFile}
    (h : execute fixed H w m = (w1, .ok)) : execFiles fixed H (m :: post) w = execFiles fixed H post w1 := by
  rw [execFiles, h]

theorem execFiles_cons_err {fixed : Bool} {H : Text → String} {w w1 : World} {m : MFile} {post : List MFile}
    {res : Res} (h : execute fixed H w m = (w1, res)) (hne : res ≠ .ok) :
    execFiles fixed H (m :: post) w = (w1, res) := by
  rw [execFiles, h]
  cases res <;> simp at hne ⊢

theorem attempts_cons (fixed : Bool) (H : Text → String) (cfg : Pending.Cfg) (dir : List MFile) (n : Nat)
    (fs : List Nat) (rest : List (List Nat)) (w : World) :
    (attempts fixed H cfg dir n (fs :: rest) w).1 =
      (attempts fixed H cfg dir n rest (executeN fixed H cfg dir n { w with tick := 0, faults := fs }).1).1 :=
  rfl

/-! ### `Kept`

`Execute` touches the world only through `execStmt` and `writeRevision` of rows `Like` the revision it loaded. -/

/-- the rows an `Execute` holding `r` may write (`RInv`, Lemmas/ExecRevs.lean, needs the type bit). -/
def Like (r x : Revision) : Prop := x.version = r.version ∧ x.typ = r.typ

/-- `P` survives the two operations of an `Execute` holding `r`. -/
structure Kept (P : World → Prop) (r : Revision) : Prop where
  stmt : ∀ {w w1 : World} {s : Text} {b : Bool}, execStmt w s = (w1, b) → P w → P w1
  write : ∀ {w w1 : World} {x : Revision} {b : Bool}, Like r x → writeRevision w x = (w1, b) → P w → P w1

section Kept
variable {P : World → Prop} {r0 : Revision}

theorem stmtLoop_kept (hP : Kept P r0) (sm : List String) (ss : List Text) (w : World) (r : Revision)
    (hr : Like r0 r) (h : P w) : P (stmtLoop sm ss w r).1 ∧ Like r0 (stmtLoop sm ss w r).2.1 := by
  fun_induction stmtLoop sm ss w r with
  | case1 => exact ⟨h, hr⟩
  | case2 _ _ _ _ _ hE => exact ⟨hP.stmt hE h, hr⟩
  | case3 _ _ _ r _ hE _ hW => exact ⟨hP.write (x := bump sm r) hr hW (hP.stmt hE h), hr⟩
  | case4 _ _ _ r _ hE _ hW ih => exact ih hr (hP.write (x := bump sm r) hr hW (hP.stmt hE h))

theorem deferred_kept (hP : Kept P r0) {w : World} {r : Revision} (res : Res) (hr : Like r0 r)
    (h : P w) : P (deferred w r res).1 := by
  cases res
  case writeRev => exact h
  case panic => exact h
  all_goals exact hP.write hr rfl h  -- the other three write `r`

theorem runStmts_kept (hP : Kept P r0) (fixed : Bool) (H : Text → String) {w : World} (m : MFile)
    {r : Revision} (hr : Like r0 r) (h : P w) : P (runStmts fixed H w m r).1 := by
  unfold runStmts
  split
  · exact h
  · have hr' : Like r0 (if fixed = true then { r with total := m.stmts.length, hash := m.hash } else r) := by
      split <;> exact hr
    dsimp only
    generalize (if fixed = true then ({ r with total := m.stmts.length, hash := m.hash } : Revision) else r) = r'
      at hr' ⊢
    have hl := stmtLoop_kept hP (sums H m.stmts) (m.stmts.drop r'.applied) w r' hr' h
    rcases hL : stmtLoop (sums H m.stmts) (m.stmts.drop r'.applied) w r' with ⟨w2, r2, res2⟩
    rw [hL] at hl
    cases res2 <;> exact deferred_kept hP _ hl.2 hl.1

theorem afterStart_kept (hP : Kept P r0) (fixed : Bool) (H : Text → String) {w : World} (m : MFile)
    {r : Revision} (hr : Like r0 r) (h : P w) : P (afterStart fixed H w m r).1 := by
  unfold afterStart
  split
  · exact h                                  -- index panic
  · exact deferred_kept hP _ hr h            -- history changed
  · exact runStmts_kept hP fixed H m hr h    -- the check passed

theorem executeFrom_kept (hP : Kept P r0) (fixed : Bool) (H : Text → String) {w : World} (m : MFile)
    {r : Revision} (hr : Like r0 r) (h : P w) : P (executeFrom fixed H w m r).1 := by
  rcases hW : writeRevision w r with ⟨w1, _ | _⟩
  · rw [executeFrom_ok hW]; exact afterStart_kept hP fixed H m hr (hP.write hr hW h)
  · rw [executeFrom_fail hW]; exact hP.write hr hW h

theorem execute_kept (fixed : Bool) (H : Text → String) {w : World} (m : MFile)
    (hP : Kept P (loadRev w m)) (h : P w) : P (execute fixed H w m).1 :=
  executeFrom_kept hP fixed H m ⟨rfl, rfl⟩ h

theorem execFiles_kept (fixed : Bool) (H : Text → String) (files : List MFile) (w : World)
    (hP : ∀ m ∈ files, ∀ w', P w' → Kept P (loadRev w' m)) (h : P w) : P (execFiles fixed H files w).1 := by
  fun_induction execFiles fixed H files w with
  | case1 => exact h
  | case2 m ms w w1 hE ih =>
    have h1 := execute_kept fixed H m (hP m (List.mem_cons_self ..) w h) h
    rw [hE] at h1
    exact ih (fun x hx => hP x (List.mem_cons_of_mem _ hx)) h1
  | case3 m ms w w1 res _ hE =>
    have h1 := execute_kept fixed H m (hP m (List.mem_cons_self ..) w h) h
    rwa [hE] at h1

end Kept

theorem Kept.of_revs {P : List Revision → Prop} {r : Revision}
    (hP : ∀ revs x, Like r x → P revs → P (upsert x revs)) : Kept (fun w => P w.revs) r where
  stmt hE h := (execStmt_frame hE).2.2.1 ▸ h
  write {_ _ _ b} hx hW h := by
    cases b with
    | false => rw [(writeRevision_ok hW).1]; exact hP _ _ hx h
    | true => rw [(writeRevision_fail hW).1]; exact h

theorem Kept.faults (fs : List Nat) (r : Revision) : Kept (fun w => w.faults = fs) r where
  stmt hE h := (execStmt_frame hE).2.1.trans h
  write _ hW h := (writeRevision_frame hW).2.1.trans h

theorem Kept.other {v : String} {r : Revision} (hv : v ≠ r.version) (o : Option Revision) :
    Kept (fun w => findRev v w.revs = o) r :=
  .of_revs (P := fun revs => findRev v revs = o) fun revs x hx h => by
    show findRev v (upsert x revs) = o
    rw [findRev_upsert, if_neg (fun e => hv (e.symm.trans hx.1)), h]

theorem Kept.calls (cs : List Text) (r : Revision) : Kept (fun w => ∃ c, w.calls = cs ++ c) r where
  stmt hE := fun ⟨c, h⟩ => ⟨c ++ [_], by rw [(execStmt_frame hE).1, h, List.append_assoc]⟩
  write _ hW := fun ⟨c, h⟩ => ⟨c, (writeRevision_frame hW).1.trans h⟩

theorem execute_other (fixed : Bool) (H : Text → String) (w : World) (m : MFile) {v : String}
    (hv : v ≠ m.version) : findRev v (execute fixed H w m).1.revs = findRev v w.revs :=
  execute_kept fixed H m (Kept.other (loadRev_version w m ▸ hv) _) rfl

theorem execute_faults (fixed : Bool) (H : Text → String) (w : World) (m : MFile) :
    (execute fixed H w m).1.faults = w.faults :=
  execute_kept fixed H m (Kept.faults _ _) rfl

end Atlas.Exec

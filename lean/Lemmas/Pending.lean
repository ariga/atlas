/-
`Atlas.Pending` (sql/migrate/migrate.go `Pending`, `ExecuteTo`; dir.go). Start from `pending_nil`, `pending_eq`,
`firstRun_*`, `normal_*`, `pending_sublist`; C11.
-/
import Atlas.Pending
import Lemmas.FindKey

namespace Atlas.Pending

/-! ### `lastIndex` -/

theorem lastIndex_eq_none {α : Type} {p : α → Bool} {l : List α} :
    lastIndex p l = none ↔ ∀ x ∈ l, p x = false := by
  fun_induction lastIndex p l with
  | case1 => simp
  | case2 a l i hi ih =>
    refine ⟨nofun, fun hall => ?_⟩
    rw [ih.mpr fun x hx => hall x (List.mem_cons_of_mem _ hx)] at hi
    cases hi
  | case3 a l hl ha ih =>
    exact ⟨nofun, fun hall => absurd (hall a (List.mem_cons_self ..)) (by rw [ha]; nofun)⟩
  | case4 a l hl ha ih =>
    refine ⟨fun _ x hx => ?_, fun _ => rfl⟩
    rcases List.mem_cons.mp hx with rfl | hx
    · exact Bool.eq_false_iff.mpr ha
    · exact ih.mp hl x hx

theorem lastIndex_split {α : Type} {p : α → Bool} (pre : List α) {a : α} {post : List α}
    (ha : p a = true) (hpost : ∀ x ∈ post, p x = false) :
    lastIndex p (pre ++ a :: post) = some pre.length := by
  induction pre with
  | nil =>
    simp only [List.nil_append, List.length_nil]
    unfold lastIndex
    rw [lastIndex_eq_none.mpr hpost]
    simp [ha]
  | cons b pre ih =>
    simp only [List.cons_append, List.length_cons]
    unfold lastIndex
    rw [ih]

theorem lastIndex_some {α : Type} {p : α → Bool} {l : List α} {i : Nat} (h : lastIndex p l = some i) :
    ∃ pre a post, l = pre ++ a :: post ∧ pre.length = i ∧ p a = true ∧ ∀ x ∈ post, p x = false := by
  fun_induction lastIndex p l generalizing i with
  | case1 => cases h
  | case2 b l j hl ih =>
    cases h
    obtain ⟨pre, a, post, rfl, rfl, ha, hpost⟩ := ih hl
    exact ⟨b :: pre, a, post, rfl, rfl, ha, hpost⟩
  | case3 b l hl hb => cases h; exact ⟨[], b, l, rfl, rfl, hb, lastIndex_eq_none.mp hl⟩
  | case4 => cases h

theorem lastIndex_sorted {p : MFile → Bool} {pre post : List MFile} {a : MFile}
    (hs : ((pre ++ a :: post).map (·.version)).Pairwise (· < ·))
    (ha : p a = true) (hp : ∀ x, a.version < x.version → p x = false) :
    lastIndex p (pre ++ a :: post) = some pre.length :=
  lastIndex_split pre ha fun x hx =>
    hp x ((List.pairwise_cons.mp (List.pairwise_map.mp (pairwise_map_append.mp hs).2.1)).1 x hx)

theorem indexFunc_head {α : Type} {p : α → Bool} (a : α) (l : List α) (h : p a = true) :
    indexFunc p (a :: l) = some 0 := by
  simp [indexFunc, h]

/-! ### the Go binary search -/

/-- once `lt` is false it stays false (what sortedness by the compared key gives). -/
def Mono {α : Type} (lt : α → Bool) (l : List α) : Prop :=
  ∀ i j (hi : i < l.length) (hj : j < l.length), i ≤ j → lt l[j] = true → lt l[i] = true

theorem mono_lt_version {α : Type} {key : α → String} {l : List α} (hs : (l.map key).Pairwise (· < ·))
    (t : String) : Mono (fun x => decide (key x < t)) l := by
  intro i j hi hj hij h
  rcases Nat.lt_or_eq_of_le hij with hlt | heq
  · rw [List.pairwise_map, List.pairwise_iff_getElem] at hs
    have := hs i j hi hj hlt
    simp only [decide_eq_true_eq] at h ⊢
    exact String.lt_trans this h
  · subst heq; exact h

theorem bsearchLoop_spec {α : Type} [Inhabited α] (lt : α → Bool) (l : List α) (hm : Mono lt l)
    (fuel lo hi : Nat) (hhi : hi ≤ l.length) (hlo : lo ≤ hi) (hf : hi - lo < fuel)
    (hbelow : ∀ k (hk : k < l.length), k < lo → lt l[k] = true)
    (habove : ∀ k (hk : k < l.length), hi ≤ k → lt l[k] = false) :
    (∀ k (hk : k < l.length), k < bsearchLoop lt l fuel lo hi → lt l[k] = true) ∧
      (∀ k (hk : k < l.length), bsearchLoop lt l fuel lo hi ≤ k → lt l[k] = false) := by
  fun_induction bsearchLoop lt l fuel lo hi with
  | case1 lo hi => exact absurd hf (Nat.not_lt_zero _)
  | case2 fuel lo hi hlt mid hc ih =>
    -- the probe `mid = (lo + hi) / 2` decides for everything before it, by monotonicity
    have hlm : lo ≤ mid ∧ mid < hi := by omega
    have hh : mid < l.length := Nat.lt_of_lt_of_le hlm.2 hhi
    rw [getElem!_pos l mid hh] at hc
    exact ih hhi hlm.2
      (Nat.lt_of_lt_of_le (Nat.sub_lt_sub_left hlt (Nat.lt_succ_of_le hlm.1)) (Nat.le_of_lt_succ hf))
      (fun k hk hkl => hm k mid hk hh (Nat.le_of_lt_succ hkl) hc) habove
  | case3 fuel lo hi hlt mid hc ih =>
    have hlm : lo ≤ mid ∧ mid < hi := by omega
    have hh : mid < l.length := Nat.lt_of_lt_of_le hlm.2 hhi
    rw [getElem!_pos l mid hh] at hc
    exact ih (Nat.le_of_lt hh) hlm.1
      (Nat.lt_of_lt_of_le (Nat.sub_lt_sub_right hlm.1 hlm.2) (Nat.le_of_lt_succ hf)) hbelow
      (fun k hk hkl => Bool.eq_false_iff.mpr fun hx => hc (hm mid k hh hk hkl hx))
  | case4 fuel lo hi hlt =>
    obtain rfl : lo = hi := Nat.le_antisymm hlo (Nat.le_of_not_lt hlt)
    exact ⟨hbelow, habove⟩

theorem bsearch_at {α : Type} [Inhabited α] {lt eq : α → Bool} {l : List α} (hm : Mono lt l) {i : Nat}
    (hi : i < l.length) (hbefore : ∀ k (hk : k < l.length), k < i → lt l[k] = true)
    (hat : lt l[i] = false) (heq : eq l[i] = true) : bsearch lt eq l = (i, true) := by
  -- at the start both ranges (`k < 0`, `l.length ≤ k`) are empty
  obtain ⟨hlo, hhi⟩ := bsearchLoop_spec lt l hm (l.length + 1) 0 l.length (Nat.le_refl _)
    (Nat.zero_le _) (Nat.lt_succ_self _) (fun k _ hk => absurd hk (Nat.not_lt_zero k))
    (fun k hk hk2 => absurd hk (Nat.not_lt.mpr hk2))
  have hres : bsearchLoop lt l (l.length + 1) 0 l.length = i := by
    apply Nat.le_antisymm
    · refine Nat.le_of_not_lt fun hgt => ?_
      have := hlo i hi hgt
      rw [hat] at this; cases this
    · refine Nat.le_of_not_lt fun hlt => ?_
      have hj := Nat.lt_trans hlt hi
      have := hbefore _ hj hlt
      rw [hhi _ hj (Nat.le_refl _)] at this; cases this
  unfold bsearch
  rw [hres]
  simp [hi, heq]

theorem bsearch_of_sorted {α : Type} [Inhabited α] {key : α → String} {l : List α}
    (hs : (l.map key).Pairwise (· < ·)) (t : String) (i : Nat) (hi : i < l.length) (hk : key l[i] = t) :
    bsearch (fun x => decide (key x < t)) (fun x => key x == t) l = (i, true) := by
  have hm := mono_lt_version hs t
  rw [List.pairwise_map, List.pairwise_iff_getElem] at hs
  exact bsearch_at hm hi (fun k hk' hki => decide_eq_true (hk ▸ hs k i hk' hi hki))
    (by rw [hk]; exact decide_eq_false (String.lt_irrefl t)) (by rw [hk]; exact beq_self_eq_true t)

theorem bsearch_lt_length {α : Type} [Inhabited α] {lt eq : α → Bool} {l : List α} {i : Nat} {found : Bool}
    (h : bsearch lt eq l = (i, found)) (hf : found = true) : i < l.length := by
  obtain ⟨rfl, rfl⟩ := Prod.mk.inj h
  exact of_decide_eq_true (Bool.and_eq_true_iff.mp hf).1

theorem bsearch_not_found {α : Type} [Inhabited α] (lt : α → Bool) {eq : α → Bool} {l : List α}
    (hne : ∀ x ∈ l, eq x = false) : (bsearch lt eq l).2 = false := by
  unfold bsearch
  simp only
  by_cases h : bsearchLoop lt l (l.length + 1) 0 l.length < l.length
  · simp only [h, decide_true, Bool.true_and]
    rw [getElem!_pos l _ h]
    exact hne _ (List.getElem_mem h)
  · simp [h]

theorem bsearch_found_iff {α : Type} [Inhabited α] {key : α → String} {l : List α}
    (hs : (l.map key).Pairwise (· < ·)) (v : String) :
    (bsearch (fun x => decide (key x < v)) (fun x => key x == v) l).2 = true ↔ v ∈ l.map key := by
  refine ⟨fun h => Decidable.by_contra fun hm => ?_, fun hm => ?_⟩
  · rw [bsearch_not_found _ fun x hx => beq_false_of_ne fun he => hm (List.mem_map.mpr ⟨x, hx, he⟩)] at h
    cases h
  · obtain ⟨r, hr, hv⟩ := List.mem_map.mp hm
    obtain ⟨i, hi, hri⟩ := List.getElem_of_mem hr
    rw [bsearch_of_sorted hs v i hi (hri ▸ hv)]

/-! ### equations of `pending` and its parts -/

theorem skip_sublist (all : List MFile) : (skipCheckpoints all).Sublist all := List.filter_sublist

theorem skipCheckpoints_eq_self {l : List MFile} (h : ∀ f ∈ l, f.checkpoint = false) : skipCheckpoints l = l := by
  unfold skipCheckpoints
  rw [List.filter_eq_self]
  intro a ha; simp [h a ha]

theorem finish_ok {p l : List MFile} (h : finish p = .ok l) : l = p := by
  unfold finish at h
  split at h
  · cases h
  · cases h; rfl

theorem finish_eq (p : List MFile) : finish p = if p = [] then .error .noPending else .ok p := by
  cases p <;> rfl

theorem window_empty (cfg : Cfg) {m : List MFile} {revs : List Revision} (r0 : Revision) {idx : Nat}
    (hsr : (revs.map (·.version)).Pairwise (· < ·))
    (hall : ∀ f ∈ m.take idx, f.version ∈ revs.map (·.version)) :
    outOfOrder cfg m revs r0 idx = none ∨ outOfOrder cfg m revs r0 idx = some [] := by
  unfold outOfOrder
  split
  · split
    · right
      congr 1
      rw [List.filter_eq_nil_iff]
      intro f hf
      simp [(bsearch_found_iff hsr f.version).mpr (hall f (List.mem_of_mem_drop hf))]
    · left; rfl
  · left; rfl

theorem pending_nil (cfg : Cfg) (all : List MFile) :
    pending cfg all [] = firstRun cfg all (skipCheckpoints all) := rfl

/-- the Go code reaches the general case on three paths. -/
theorem pending_eq {cfg : Cfg} {all : List MFile} {revs : List Revision} {last : Revision} {i : Nat} {found : Bool}
    (hl : revs.getLast? = some last)
    (hb : bsearch (fun (f : MFile) => f.version < last.version) (fun (f : MFile) => f.version == last.version) all =
      (i, found)) :
    pending cfg all revs =
      ⟨none,
        if (last.partially && !all.isEmpty) && (found && (all[i]!).checkpoint) then
          .ok ((all[i]!) :: skipCheckpoints (all.drop i))
        else if (skipCheckpoints all).isEmpty then .error .noPending
        else normal cfg (skipCheckpoints all) revs (revs.head?.getD last) last⟩ := by
  obtain ⟨r0, h0⟩ : ∃ r0, revs.head? = some r0 := by cases revs with | nil => cases hl | cons r t => exact ⟨r, rfl⟩
  unfold pending
  simp only [hl, h0, hb, Option.getD_some]
  cases last.partially && !all.isEmpty
  · simp only [Bool.false_and, Bool.false_eq_true, if_false]
    cases (skipCheckpoints all).isEmpty <;> rfl
  · cases found && (all[i]!).checkpoint
    · simp only [Bool.and_false, Bool.false_eq_true, if_false, if_true]
      cases (skipCheckpoints all).isEmpty <;> rfl
    · rfl

theorem pending_of_no_checkpoint {cfg : Cfg} {all : List MFile} {revs : List Revision} {last : Revision}
    (hl : revs.getLast? = some last) (hne : all ≠ []) (hck : ∀ f ∈ all, f.checkpoint = false) :
    pending cfg all revs = ⟨none, normal cfg all revs (revs.head?.getD last) last⟩ := by
  rcases hb : bsearch (fun (f : MFile) => f.version < last.version)
    (fun (f : MFile) => f.version == last.version) all with ⟨i, found⟩
  rw [pending_eq hl hb, skipCheckpoints_eq_self hck, if_neg, if_neg (by simpa using hne)]
  intro hc
  simp only [Bool.and_eq_true] at hc
  have hlt := bsearch_lt_length hb hc.2.1
  rw [getElem!_pos all _ hlt, hck _ (List.getElem_mem hlt)] at hc
  cases hc.2.2

theorem filesFromLastCheckpoint_cases (all : List MFile) :
    (∀ f ∈ all, f.checkpoint = false) ∧ filesFromLastCheckpoint all = all ∨
    ∃ pre ck post, all = pre ++ ck :: post ∧ ck.checkpoint = true ∧ (∀ f ∈ post, f.checkpoint = false) ∧
      filesFromLastCheckpoint all = ck :: post := by
  unfold filesFromLastCheckpoint
  cases h : lastIndex (fun f => f.checkpoint) all with
  | none => exact .inl ⟨lastIndex_eq_none.mp h, rfl⟩
  | some i =>
    obtain ⟨pre, ck, post, rfl, rfl, hck, hpost⟩ := lastIndex_some h
    exact .inr ⟨pre, ck, post, rfl, hck, hpost, by simp⟩

theorem firstRun_plain {cfg : Cfg} (hc : cfg.clean = true ∨ cfg.allowDirty = true) (hb : cfg.baseline = "")
    (all m : List MFile) : firstRun cfg all m = ⟨none, finish (filesFromLastCheckpoint all)⟩ := by
  have h1 : (!cfg.clean && !cfg.allowDirty && cfg.baseline == "") = false := by
    rcases hc with h | h <;> simp [h]
  have h2 : (cfg.baseline != "") = false := by simp [hb]
  unfold firstRun
  rw [h1, h2]
  rfl

theorem firstRun_baseline {cfg : Cfg} (hb : cfg.baseline ≠ "") {m : List MFile} {b : Nat}
    (hi : lastIndex (fun f => f.version == cfg.baseline) m = some b) (all : List MFile) :
    firstRun cfg all m =
      ⟨some { version := (m[b]!).version, desc := (m[b]!).desc, typ := 1 }, finish (m.drop (b + 1))⟩ := by
  have h1 : (!cfg.clean && !cfg.allowDirty && cfg.baseline == "") = false := by simp [hb]
  have h2 : (cfg.baseline != "") = true := by simp [hb]
  unfold firstRun
  rw [h1, h2, hi]
  rfl

theorem normal_not_partial {cfg : Cfg} {m : List MFile} {revs : List Revision} {r0 last : Revision} {i : Nat}
    (hp : last.partially = false)
    (hidx : lastIndex (fun f => decide (f.version ≤ last.version)) m = some i)
    (hsr : (revs.map (·.version)).Pairwise (· < ·))
    (hall : ∀ f ∈ m.take (i + 1), f.version ∈ revs.map (·.version)) :
    normal cfg m revs r0 last = finish (m.drop (i + 1)) := by
  unfold normal
  simp only [hp, Bool.false_eq_true, if_false, hidx]
  rcases window_empty cfg r0 hsr hall with hw | hw <;> rw [hw]

theorem normal_partial {cfg : Cfg} {m : List MFile} {revs : List Revision} {r0 last : Revision} {i : Nat}
    (hp : last.partially = true)
    (hidx : lastIndex (fun f => f.version == last.version) m = some i)
    (hsr : (revs.map (·.version)).Pairwise (· < ·))
    (hall : ∀ f ∈ m.take i, f.version ∈ revs.map (·.version)) :
    normal cfg m revs r0 last = finish (m.drop i) := by
  unfold normal
  simp only [hp, if_true, hidx]
  rcases window_empty cfg r0 hsr hall with hw | hw <;> rw [hw]

/-! ### every answer is a sub-sequence of the directory -/

theorem firstRun_sublist {cfg : Cfg} {all m l : List MFile} (hm : m.Sublist all)
    (h : (firstRun cfg all m).out = .ok l) : l.Sublist all := by
  unfold firstRun at h
  split at h
  · cases h
  · split at h
    · split at h
      · cases h
      · exact finish_ok h ▸ (List.drop_sublist _ _).trans hm
    · rw [finish_ok h]
      rcases filesFromLastCheckpoint_cases all with ⟨_, he⟩ | ⟨pre, ck, post, rfl, _, _, he⟩ <;> rw [he]
      · exact List.Sublist.refl _
      · exact List.sublist_append_right _ _

theorem outOfOrder_sublist {cfg : Cfg} {m : List MFile} {revs : List Revision} {r0 : Revision} {idx : Nat}
    {s : List MFile} (h : outOfOrder cfg m revs r0 idx = some s) : s.Sublist (m.take idx) := by
  unfold outOfOrder at h
  split at h
  · split at h
    · cases h
      exact List.filter_sublist.trans (List.drop_sublist _ _)
    · cases h
  · cases h

theorem normal_sublist {cfg : Cfg} {m : List MFile} {revs : List Revision} {r0 last : Revision} {l : List MFile}
    (h : normal cfg m revs r0 last = .ok l) : l.Sublist m := by
  unfold normal at h
  simp only at h
  split at h
  · split at h
    · cases h
    · cases h; exact List.Sublist.refl _
  · split at h
    · exact finish_ok h ▸ List.drop_sublist _ _
    · exact finish_ok h ▸ List.drop_sublist _ _
    · next hs =>
      split at h
      · rw [finish_ok h]
        exact ((outOfOrder_sublist hs).append (.refl _)).trans (List.take_append_drop .. ▸ .refl _)
      · cases h
      · exact finish_ok h ▸ List.drop_sublist _ _

theorem pending_sublist {cfg : Cfg} {all : List MFile} {revs : List Revision} {l : List MFile}
    (h : (pending cfg all revs).out = .ok l) : l.Sublist all := by
  cases hl : revs.getLast? with
  | none =>
    rw [List.getLast?_eq_none_iff.mp hl, pending_nil] at h
    exact firstRun_sublist (skip_sublist all) h
  | some last =>
    rcases hb : bsearch (fun (f : MFile) => f.version < last.version)
      (fun (f : MFile) => f.version == last.version) all with ⟨i, found⟩
    rw [pending_eq hl hb] at h
    split at h
    · next hc =>
      -- the checkpoint file found heads `all.drop idx`; `skipCheckpoints` drops it
      cases h
      simp only [Bool.and_eq_true] at hc
      have hlt := bsearch_lt_length hb hc.2.1
      rw [getElem!_pos all i hlt] at hc ⊢
      refine List.Sublist.trans ?_ (List.drop_sublist i all)
      rw [List.drop_eq_getElem_cons hlt, skipCheckpoints, List.filter_cons_of_neg (by simp [hc.2.2])]
      exact List.filter_sublist.cons_cons _
    · split at h
      · cases h
      · exact (normal_sublist h).trans (skip_sublist all)

/-! ### `ExecuteTo` -/

theorem executeTo_before_checkpoint {cfg : Cfg} {all : List MFile} {revs : List Revision} {v : String} {idx : Nat}
    {l : List MFile} (hi : lastIndex (fun f => f.version == v) all = some idx)
    (hck : (all.drop (idx + 1)).any (fun f => f.checkpoint) = true)
    (h : executeTo cfg all revs v = some (.ok l)) : l.Sublist (all.take (idx + 1)) := by
  unfold executeTo at h
  simp only [hi, hck, ↓reduceIte, Option.some.injEq] at h
  exact pending_sublist h

theorem executeTo_prefix {cfg : Cfg} {all : List MFile} {revs : List Revision} {v : String} {idx : Nat}
    {l : List MFile} (hi : lastIndex (fun f => f.version == v) all = some idx)
    (hck : (all.drop (idx + 1)).any (fun f => f.checkpoint) = false)
    (h : executeTo cfg all revs v = some (.ok l)) :
    ∃ p i, (pending cfg all revs).out = .ok p ∧ lastIndex (fun f => f.version == v) p = some i ∧ l = p.take (i + 1) := by
  unfold executeTo at h
  simp only [hi, hck, Bool.false_eq_true, ↓reduceIte] at h
  split at h
  · cases h
  · rename_i p hp
    split at h
    · cases h
    · rename_i i hidx
      simp only [Option.some.injEq, Except.ok.injEq] at h
      exact ⟨p, i, hp, hidx, h.symm⟩

theorem executeTo_sublist {cfg : Cfg} {all : List MFile} {revs : List Revision} {v : String} {l : List MFile}
    (h : executeTo cfg all revs v = some (.ok l)) : l.Sublist all := by
  cases hi : lastIndex (fun f => f.version == v) all with
  | none => rw [executeTo, hi] at h; cases h
  | some idx =>
    cases hck : (all.drop (idx + 1)).any (fun f => f.checkpoint) with
    | true => exact (executeTo_before_checkpoint hi hck h).trans (List.take_sublist _ _)
    | false =>
      obtain ⟨p, i, hp, _, rfl⟩ := executeTo_prefix hi hck h
      exact (List.take_sublist _ _).trans (pending_sublist hp)

end Atlas.Pending

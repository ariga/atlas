/-
`ExcludeRealm` (`Atlas.Exclude`; sql/schema/exclude_oss.go): `Except` binds inverted (`bind_eq_ok`), the filter loops
(`filterE`, `mapFilterE`, `excludeRealm`: one function, `keepE`), `excludeT`, `excludeS` (`excludeS_ok`) and the fold
over the patterns (`excludeSchemaGlobs_at`). For C19.
-/
import Atlas.Exclude

namespace Atlas.Exclude

/-! ### `Except` -/

theorem bind_eq_ok {ε α β : Type} {x : Except ε α} {f : α → Except ε β} {b : β} :
    (x >>= f) = .ok b ↔ ∃ a, x = .ok a ∧ f a = .ok b := by
  cases x <;> simp [bind, Except.bind]

/-- the shape the `do` elaborator gives `let a ← if c then x else y; f a`. The join point `f` is matched as it stands:
unfolded, it would be copied into both branches. -/
theorem ite_bind_eq_ok {ε α β : Type} {c : Prop} [Decidable c] {x y : Except ε α} {f : α → Except ε β} {b : β}
    (h : (if c then x >>= f else y >>= f) = .ok b) : ∃ a, (if c then x else y) = .ok a ∧ f a = .ok b := by
  by_cases hc : c
  · rw [if_pos hc] at h ⊢; exact bind_eq_ok.mp h
  · rw [if_neg hc] at h ⊢; exact bind_eq_ok.mp h

/-! ### the filter loops -/

/-- `filterE`, `mapFilterE` and `excludeRealm`, over any error type. -/
def keepE {ε α : Type} (f : α → Except ε (Option α)) : List α → Except ε (List α)
  | [] => .ok []
  | a :: as => do
    let x ← f a
    let r ← keepE f as
    pure (match x with | some a' => a' :: r | none => r)

theorem mapFilterE_eq_keepE {α : Type} (f : α → Except Unit (Option α)) : ∀ l, mapFilterE f l = keepE f l
  | [] => rfl
  | a :: as => by
    unfold mapFilterE keepE; rw [mapFilterE_eq_keepE f as]
    cases f a with
    | error e => rfl
    | ok x => cases keepE f as <;> rfl

theorem excludeRealm_eq_keepE (globs : List (List Text)) : ∀ r, excludeRealm globs r = keepE (excludeSchemaGlobs globs) r
  | [] => rfl
  | s :: ss => by
    unfold excludeRealm keepE; rw [excludeRealm_eq_keepE globs ss]
    cases excludeSchemaGlobs globs s with
    | error e => rfl
    | ok x => cases keepE (excludeSchemaGlobs globs) ss <;> cases x <;> rfl

theorem filterE_eq_keepE {α : Type} (f : α → Except Unit Bool) : ∀ l,
    filterE f l = keepE (fun a => (f a).map fun m => Option.guard (fun _ => !m) a) l
  | [] => rfl
  | a :: as => by
    unfold filterE keepE; rw [filterE_eq_keepE f as]
    cases f a with
    | error e => rfl
    | ok m => cases keepE (fun a => (f a).map fun m => Option.guard (fun _ => !m) a) as <;> cases m <;> rfl

theorem keepE_cons_eq_ok {ε α : Type} {f : α → Except ε (Option α)} {a : α} {as r : List α} :
    keepE f (a :: as) = .ok r ↔
      ∃ x, f a = .ok x ∧ ∃ r', keepE f as = .ok r' ∧ r = (match x with | some a' => a' :: r' | none => r') := by
  rw [keepE, bind_eq_ok]
  refine exists_congr fun x => and_congr_right fun _ => ?_
  rw [bind_eq_ok]
  refine exists_congr fun r' => and_congr_right fun _ => ?_
  exact ⟨fun h => (Except.ok.inj h).symm, fun h => h ▸ rfl⟩

theorem keepE_spec {ε α : Type} {f : α → Except ε (Option α)} (g : α → Option α) : ∀ (l : List α),
    (∀ a ∈ l, f a = .ok (g a)) → keepE f l = .ok (l.filterMap g)
  | [], _ => rfl
  | a :: as, h => keepE_cons_eq_ok.mpr ⟨g a, h a (List.mem_cons_self ..), as.filterMap g,
      keepE_spec g as fun b hb => h b (List.mem_cons_of_mem _ hb), by rw [List.filterMap_cons]; cases g a <;> rfl⟩

theorem keepE_mem {ε α : Type} {f : α → Except ε (Option α)} : ∀ {l r : List α}, keepE f l = .ok r →
    ∀ a' ∈ r, ∃ a ∈ l, f a = .ok (some a')
  | [], _, h, _, ha' => by cases h; cases ha'
  | a :: as, _, h, a', ha' => by
    obtain ⟨x, hx, r', hr', rfl⟩ := keepE_cons_eq_ok.mp h
    have tail : a' ∈ r' → ∃ b ∈ a :: as, f b = .ok (some a') := fun hm =>
      (keepE_mem hr' a' hm).imp fun _ hb => ⟨List.mem_cons_of_mem _ hb.1, hb.2⟩
    cases x with
    | none => exact tail ha'
    | some a1 =>
      rcases List.mem_cons.mp ha' with rfl | hm
      · exact ⟨a, List.mem_cons_self .., hx⟩
      · exact tail hm

/-- `p := id`: `f` only keeps or drops; `p := name`: `f` may rewrite an element but not rename it. -/
theorem keepE_sublist {ε α β : Type} {f : α → Except ε (Option α)} (p : α → β) : ∀ {l r : List α},
    (∀ a ∈ l, ∀ a', f a = .ok (some a') → p a' = p a) → keepE f l = .ok r → (r.map p).Sublist (l.map p)
  | [], _, _, h => by cases h; exact .slnil
  | a :: as, r, hf, h => by
    obtain ⟨x, hx, r', hr', rfl⟩ := keepE_cons_eq_ok.mp h
    have := keepE_sublist p (fun b hb => hf b (List.mem_cons_of_mem _ hb)) hr'
    cases x with
    | none => exact this.cons (p a)
    | some a' => rw [List.map_cons, List.map_cons, hf a (List.mem_cons_self ..) a' hx]; exact this.cons_cons (p a)

theorem mapFilterE_mem {α : Type} {f : α → Except Unit (Option α)} {l r : List α} (h : mapFilterE f l = .ok r) :
    ∀ a' ∈ r, ∃ a ∈ l, f a = .ok (some a') :=
  keepE_mem (mapFilterE_eq_keepE f l ▸ h)

theorem excludeRealm_mem (globs : List (List Text)) : ∀ (r r' : Realm), excludeRealm globs r = .ok r' →
    ∀ s' ∈ r', ∃ s ∈ r, excludeSchemaGlobs globs s = .ok (some s') :=
  fun r _ h => keepE_mem (excludeRealm_eq_keepE globs r ▸ h)

/-! ### one table, one schema -/

theorem excludeT_name {t t' : Table} {p : Text} (h : excludeT t p = .ok t') : t'.name = t.name := by
  unfold excludeT at h
  obtain ⟨_, _, h⟩ := ite_bind_eq_ok h
  obtain ⟨_, _, h⟩ := ite_bind_eq_ok h
  obtain ⟨_, _, h⟩ := ite_bind_eq_ok h
  obtain ⟨_, _, h⟩ := ite_bind_eq_ok h
  cases h
  rfl

/-- the per-table step of `excludeS` (Atlas/Exclude.lean); `excludeS_ok` checks that it is that lambda. -/
def tableStep (pt : Text) (glob : List Text) (t : Table) : Except Unit (Option Table) := do
  let m ← gmatch pt t.name
  if m then
    (match glob with
      | [_] => pure none
      | _ :: g1 :: _ => (do let t' ← excludeT t g1; pure (some t'))
      | [] => pure (some t))
  else pure (some t)

theorem tableStep_name {pt : Text} {glob : List Text} {t t' : Table} (h : tableStep pt glob t = .ok (some t')) :
    t'.name = t.name := by
  obtain ⟨m, _, h⟩ := bind_eq_ok.mp h
  split at h
  · split at h
    · cases h
    · obtain ⟨t1, ht1, h⟩ := bind_eq_ok.mp h
      cases h
      exact excludeT_name ht1
    · cases h; rfl
  · cases h; rfl

theorem tableStep_single {pt g : Text} {t t' : Table} (h : tableStep pt [g] t = .ok (some t')) :
    t' = t ∧ gmatch pt t.name = .ok false := by
  obtain ⟨m, hm, h⟩ := bind_eq_ok.mp h
  cases m with
  | true => cases h
  | false => cases h; exact ⟨rfl, hm⟩

/-- the `if` has the shape the `do` block elaborates to (see `ite_bind_eq_ok`). -/
theorem excludeS_ok {s : Schema} {glob : List Text} {s' : Schema} (h : excludeS s glob = .ok s') :
    s'.name = s.name ∧
    (if (excludeType "table".toList (glob.headD [])).2 then
        mapFilterE (tableStep (excludeType "table".toList (glob.headD [])).1 glob) s.tables
     else pure s.tables) = .ok s'.tables := by
  obtain ⟨tables, ht, h⟩ := ite_bind_eq_ok h
  obtain ⟨views, _, h⟩ := ite_bind_eq_ok h
  cases h
  exact ⟨rfl, ht⟩

theorem excludeS_sub (s : Schema) (glob : List Text) (s' : Schema) (h : excludeS s glob = .ok s') :
    s'.name = s.name ∧ ∀ t' ∈ s'.tables, ∃ t ∈ s.tables, t'.name = t.name := by
  obtain ⟨hn, ht⟩ := excludeS_ok h
  refine ⟨hn, fun t' ht' => ?_⟩
  split at ht
  · obtain ⟨t, hmem, hf⟩ := mapFilterE_mem ht t' ht'
    exact ⟨t, hmem, tableStep_name hf⟩
  · exact ⟨t', Except.ok.inj ht ▸ ht', rfl⟩

theorem excludeS_single (s : Schema) (g : Text) (s' : Schema) (h : excludeS s [g] = .ok s')
    (hsel : (excludeType "table".toList g).2 = true) :
    ∀ t' ∈ s'.tables, gmatch (excludeType "table".toList g).1 t'.name = .ok false := by
  obtain ⟨_, ht⟩ := excludeS_ok h
  rw [if_pos (show (excludeType "table".toList ([g].headD [])).2 = true from hsel)] at ht
  intro t' ht'
  obtain ⟨t, _, hf⟩ := mapFilterE_mem ht t' ht'
  obtain ⟨rfl, hm⟩ := tableStep_single hf
  exact hm

/-! ### the fold over the patterns -/

/-- what one pattern does to a schema that survives it: nothing, or what `excludeS` makes of it. -/
def GlobStep (g : List Text) (s s1 : Schema) : Prop :=
  (s1 = s ∧ ((schemaSel g).2 = false ∨ gmatch (schemaSel g).1 s.name = .ok false)) ∨
  ((schemaSel g).2 = true ∧ gmatch (schemaSel g).1 s.name = .ok true ∧ g.length ≠ 1 ∧
    excludeS s (g.drop 1) = .ok s1)

theorem GlobStep.sub {g : List Text} {s s1 : Schema} (h : GlobStep g s s1) :
    s1.name = s.name ∧ ∀ t' ∈ s1.tables, ∃ t ∈ s.tables, t'.name = t.name := by
  rcases h with ⟨rfl, _⟩ | ⟨_, _, _, hs1⟩
  · exact ⟨rfl, fun t' ht' => ⟨t', ht', rfl⟩⟩
  · exact excludeS_sub s _ s1 hs1

theorem excludeSchemaGlobs_cons_ok {g : List Text} {gs : List (List Text)} {s s' : Schema}
    (h : excludeSchemaGlobs (g :: gs) s = .ok (some s')) :
    ∃ s1, excludeSchemaGlobs gs s1 = .ok (some s') ∧ GlobStep g s s1 := by
  unfold excludeSchemaGlobs at h
  split at h
  · cases h                                       -- more than three parts
  · split at h
    · exact ⟨s, h, .inl ⟨rfl, .inl ‹_›⟩⟩          -- selector does not allow schemas
    · split at h
      · cases h                                   -- bad pattern
      · exact ⟨s, h, .inl ⟨rfl, .inr ‹_›⟩⟩        -- name not matched
      · split at h
        · cases h                                 -- one part: the schema is dropped
        · split at h
          · cases h                               -- `excludeS` failed
          · exact ⟨_, h, .inr ⟨by simpa using ‹¬(schemaSel g).2 = false›, ‹_›, ‹_›, ‹_›⟩⟩

theorem excludeSchemaGlobs_sub : ∀ (gs : List (List Text)) (s s' : Schema),
    excludeSchemaGlobs gs s = .ok (some s') →
    s'.name = s.name ∧ ∀ t' ∈ s'.tables, ∃ t ∈ s.tables, t'.name = t.name
  | [], s, s', h => by cases h; exact ⟨rfl, fun t' ht' => ⟨t', ht', rfl⟩⟩
  | g :: gs, s, s', h => by
    obtain ⟨s1, h, hstep⟩ := excludeSchemaGlobs_cons_ok h
    obtain ⟨hn, ht⟩ := excludeSchemaGlobs_sub gs s1 s' h
    obtain ⟨hn1, ht1⟩ := hstep.sub
    refine ⟨hn.trans hn1, fun t' ht' => ?_⟩
    obtain ⟨t1, hm1, he1⟩ := ht t' ht'
    obtain ⟨t, hm, he⟩ := ht1 t1 hm1
    exact ⟨t, hm, he1.trans he⟩

/-- every pattern of the list had its turn: on a schema `s0` of the same name, leaving `s1`, of which the result
keeps (by name) a part. -/
theorem excludeSchemaGlobs_at : ∀ {gs : List (List Text)} {s s' : Schema},
    excludeSchemaGlobs gs s = .ok (some s') → ∀ g ∈ gs,
      ∃ s0 s1, s'.name = s0.name ∧ GlobStep g s0 s1 ∧ ∀ t' ∈ s'.tables, ∃ t ∈ s1.tables, t'.name = t.name := by
  intro gs
  induction gs with
  | nil => intro _ _ _ _ hg; cases hg
  | cons g0 gs ih =>
    intro s s' h g hg
    obtain ⟨s1, h1, hstep⟩ := excludeSchemaGlobs_cons_ok h
    rcases List.mem_cons.mp hg with rfl | hmem
    · obtain ⟨hn, ht⟩ := excludeSchemaGlobs_sub gs s1 s' h1
      exact ⟨s, s1, hn.trans hstep.sub.1, hstep, ht⟩
    · exact ih h1 g hmem

end Atlas.Exclude

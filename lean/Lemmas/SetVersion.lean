/-
`atlas migrate set` (`Atlas.SetV`) on a table and a directory sorted by version: the rows `markStep` keeps, the
table `setRevs` leaves.
-/
import Atlas.SetVersion
import Lemmas.Revs

namespace Atlas.SetV
open Atlas Atlas.Exec

/-- the marking function of `markStep` (Atlas/SetVersion.lean). -/
def markF (version : String) (r : Revision) : Revision :=
  if r.version == version && (r.error != "" || r.total != r.applied) then { r with typ := 6 } else r

theorem markStep_eq (v : String) (revs : List Revision) :
    markStep v revs = (revs.filter (fun r => !(decide (v < r.version)))).map (markF v) := rfl

theorem markF_version (v : String) (r : Revision) : (markF v r).version = r.version := by
  unfold markF; split <;> rfl

theorem markStep_versions (v : String) (revs : List Revision) :
    (markStep v revs).map (·.version) = (revs.map (·.version)).filter (fun s => !(decide (v < s))) := by
  rw [markStep_eq, List.map_map, List.filter_map]
  exact List.map_congr_left fun r _ => markF_version v r

theorem markF_not_partial (v : String) (r : Revision) (h : r.version = v) : (markF v r).partially = false := by
  unfold markF
  by_cases hc : (r.error != "" || r.total != r.applied) = true
  · rw [if_pos (by rw [h, beq_self_eq_true, hc]; rfl)]
    exact Revision.resolved_not_partially _ (show ((6 : Nat) / 4 % 2 == 1) = true by decide)
  · rw [if_neg (by rw [Bool.and_eq_true]; exact fun h' => hc h'.2)]
    rw [Bool.or_eq_true, not_or] at hc
    have ht : r.total = r.applied := by simpa using hc.2
    exact Revision.complete_not_partially r ht.symm

theorem markStep_not_partial {v : String} {revs : List Revision} {r : Revision} (hr : r ∈ markStep v revs)
    (hv : r.version = v) : r.partially = false := by
  rw [markStep_eq] at hr
  obtain ⟨r', _, rfl⟩ := List.mem_map.mp hr
  exact markF_not_partial v r' (by rw [← markF_version v r', hv])

theorem takeWhile_split {α : Type} (p : α → Bool) (l1 l2 : List α) (h1 : ∀ a ∈ l1, p a = true)
    (h2 : ∀ a ∈ l2, p a = false) : (l1 ++ l2).takeWhile p = l1 := by
  rw [List.takeWhile_append_of_pos h1]
  cases l2 with
  | nil => simp
  | cons a t => rw [List.takeWhile_cons_of_neg (by simp [h2 a (List.mem_cons_self ..)])]; simp

/-- `q`: the files whose rows `markStep` keeps; `x`: those up to `v` still without a row; `after`: those behind `v`. -/
theorem setRevs_eq {q x after : List MFile} {revs : List Revision} {v : String}
    (hs : ((q ++ x).map (·.version)).Pairwise (· < ·))
    (hu : ∀ f ∈ q ++ x, ¬ v < f.version) (ha : ∀ f ∈ after, v < f.version)
    (hv : (markStep v revs).map (·.version) = q.map (·.version)) :
    setRevs (q ++ x ++ after) revs v = markStep v revs ++ x.map resolvedRev := by
  have hrec : toRecord (q ++ x ++ after) (markStep v revs) v = x := by
    unfold toRecord
    cases hl : (markStep v revs).getLast? with
    | none =>
      rw [List.getLast?_eq_none_iff.mp hl] at hv
      obtain rfl := List.map_eq_nil_iff.mp hv.symm
      exact takeWhile_split _ _ after (fun f hf => by simp [hu f hf]) (fun f hf => by simp [ha f hf])
    | some last =>
      -- `q` ends with the file of `last`
      obtain ⟨p, pl, rfl, (hpl : pl.version = last.version)⟩ := getLast?_of_map_eq hv hl
      obtain ⟨hsq, _, hqx⟩ := pairwise_map_append.mp hs
      obtain ⟨_, _, hppl⟩ := pairwise_map_append.mp hsq
      have hx : ∀ g ∈ x, last.version < g.version := fun g hg =>
        hpl ▸ hqx pl (List.mem_append_right _ (List.mem_singleton.mpr rfl)) g hg
      dsimp only
      by_cases hlt : last.version < v
      · have hq : (p ++ [pl]).filter (fun f => !(decide (f.version ≤ last.version))) = [] := by
          rw [List.filter_eq_nil_iff]
          intro f hf
          rcases List.mem_append.mp hf with hf | hf
          · simpa [← hpl] using String.lt_asymm (hppl f hf pl (List.mem_singleton.mpr rfl))
          · rw [List.mem_singleton.mp hf, hpl]; simp
        have hx' : x.filter (fun f => !(decide (f.version ≤ last.version))) = x :=
          List.filter_eq_self.mpr fun g hg => by simpa using hx g hg
        rw [if_pos (by simpa using hlt), takeWhile_split _ _ after (fun f hf => by simp [hu f hf])
          (fun f hf => by have h1 := ha f hf; simp [h1, String.lt_trans hlt h1]),
          List.filter_append, hq, hx', List.nil_append]
      · rw [if_neg (by simpa using hlt)]
        cases x with
        | nil => rfl
        | cons g t =>
          have hg := hx g (List.mem_cons_self ..)
          exact absurd hg (String.le_trans (hu g (by simp)) hlt)  -- `¬ b < a` is `a ≤ b` on strings
  unfold setRevs
  dsimp only
  rw [hrec]
  refine (List.foldl_map (f := resolvedRev) (g := fun acc r => upsert r acc)).symm.trans (foldl_upsert_end _ _ ?_)
  rw [List.map_append] at hs
  rw [List.map_append, hv, List.map_map]
  exact hs

/-- on any history without holes (the left shape of `Props.C11.LinearState` results). -/
theorem setRevs_linear {upto after pre0 rest0 : List MFile} {z : MFile} {revs : List Revision}
    (hz : upto.getLast? = some z) (hs : ((upto ++ after).map (·.version)).Pairwise (· < ·))
    (hsplit : pre0 ++ rest0 = upto ++ after) (hv0 : revs.map (·.version) = pre0.map (·.version)) :
    (setRevs (upto ++ after) revs z.version).map (·.version) = upto.map (·.version) ∧
    ∀ last, (setRevs (upto ++ after) revs z.version).getLast? = some last → last.partially = false := by
  obtain ⟨hsu, _, hlt⟩ := pairwise_map_append.mp hs
  have hu : ∀ f ∈ upto, ¬ z.version < f.version := by
    obtain ⟨i, rfl⟩ := List.getLast?_eq_some_iff.mp hz
    intro f hf
    rcases List.mem_append.mp hf with hf | hf
    · exact String.lt_asymm ((pairwise_map_append.mp hsu).2.2 f hf z (List.mem_singleton.mpr rfl))
    · rw [List.mem_singleton.mp hf]; exact String.lt_irrefl _
  have ha : ∀ f ∈ after, z.version < f.version := hlt z (List.mem_of_getLast? hz)
  obtain ⟨q, x, rfl, hv⟩ : ∃ q x, upto = q ++ x ∧
      (markStep z.version revs).map (·.version) = q.map (·.version) := by
    -- the files of the history not behind the target are a prefix of `upto`
    have hp := (List.prefix_append pre0 rest0).filter (fun f => !(decide (z.version < f.version)))
    rw [hsplit, List.filter_append, List.filter_eq_self (l := upto) |>.mpr (by simpa using hu),
      List.filter_eq_nil_iff (l := after) |>.mpr (by simpa using ha), List.append_nil] at hp
    obtain ⟨x, hx⟩ := hp
    exact ⟨_, x, hx.symm, by rw [markStep_versions, hv0, List.filter_map]; rfl⟩
  rw [setRevs_eq hsu hu ha hv]
  have hvs : (markStep z.version revs ++ x.map resolvedRev).map (·.version) = (q ++ x).map (·.version) := by
    rw [List.map_append, hv, List.map_map, List.map_append]; rfl
  refine ⟨hvs, fun last hl => ?_⟩
  -- the last row has the target version
  obtain ⟨i, b, hib, hbv⟩ := getLast?_of_map_eq hvs hl
  rw [hib, List.getLast?_concat] at hz
  cases hz
  rcases List.mem_append.mp (List.mem_of_getLast? hl) with hm | hm
  · exact markStep_not_partial hm hbv.symm
  · obtain ⟨g, _, rfl⟩ := List.mem_map.mp hm
    exact Revision.complete_not_partially _ rfl

end Atlas.SetV

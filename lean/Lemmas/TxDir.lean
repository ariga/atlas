/-
Directories in the transaction model (C10, C13): the database after completely applied files (`applyFiles`) and
what the loop does on succeeding files that run in a transaction of their own or in none (`Good`) - the complete
run, a crash at any point, a failing file behind them, the run that resumes a stored row - and in `--tx-mode all`.
-/
import Lemmas.TxLoop

namespace Atlas.Tx

/-! ### list facts -/

theorem range'_split {a i m : Nat} (h1 : a ≤ i) (h3 : i ≤ m) :
    List.range' a (m - a) = List.range' a (i - a) ++ List.range' i (m - i) := by
  have := List.range'_append (s := a) (m := i - a) (n := m - i) (step := 1)
  rw [Nat.one_mul, Nat.add_sub_cancel' h1] at this
  rw [this]; congr 1; omega

theorem range_append_range' {j m : Nat} (h : j ≤ m) : List.range m = List.range j ++ List.range' j (m - j) := by
  simpa [List.range_eq_range'] using range'_split (Nat.zero_le _) h

/-! ### completely applied files -/

/-- the database after the files of a list are completely applied, one after the other. -/
def applyFiles (d : Db) : List TFile → Db
  | [] => d
  | f :: rest => applyFiles (applyFile d f) rest

theorem applyFiles_append (d : Db) (a b : List TFile) : applyFiles d (a ++ b) = applyFiles (applyFiles d a) b := by
  induction a generalizing d with
  | nil => rfl
  | cons f fs ih => exact ih _

/-- journal rows contributed by completely applying `l`, the first file having index `fi`. -/
def jrn : Nat → List TFile → List (Nat × Nat)
  | _, [] => []
  | fi, f :: rest => (List.range f.ok.length).map (fun x => (fi, x)) ++ jrn (fi + 1) rest

theorem applyFiles_eq (d : Db) (l : List TFile) :
    applyFiles d l = { journal := d.journal ++ jrn d.revs.length l,
                       revs := d.revs ++ l.map (fun f => ⟨f.ok.length, f.ok.length, false⟩) } := by
  induction l generalizing d with
  | nil => simp [applyFiles, jrn]
  | cons f fs ih => rw [applyFiles, ih]; simp [applyFile, jrn]

theorem applyFiles_revs_length (d : Db) (l : List TFile) : (applyFiles d l).revs.length = d.revs.length + l.length := by
  simp [applyFiles_eq]

/-! ### every recorded statement has its effect -/

theorem partFile_rev_le {D : Db}
    (hD : ∀ f r, D.revs[f]? = some r → ∀ i, i < r.applied → (f, i) ∈ D.journal) {n a : Nat} (m : Nat) (h1 : a ≤ n) :
    ∀ f r, (partFile D n a m).revs[f]? = some r → ∀ i, i < r.applied → (f, i) ∈ (partFile D n a m).journal := by
  intro f r hr i hi
  simp only [partFile, List.getElem?_append] at hr ⊢
  split at hr
  · exact List.mem_append_left _ (hD f r hr i hi)
  · -- the row of the partial file
    obtain ⟨hlt, rfl⟩ := List.getElem?_eq_some_iff.mp hr
    obtain rfl : f = D.revs.length := by simp at hlt; omega
    exact List.mem_append_right _ (List.mem_map.mpr ⟨i, by simp at hi ⊢; omega, rfl⟩)

/-- `partFile_rev_le` file by file (`applyFile` is a `partFile`). -/
theorem applyFiles_rev_le (l : List TFile) {d : Db}
    (hd : ∀ f r, d.revs[f]? = some r → ∀ i, i < r.applied → (f, i) ∈ d.journal) :
    ∀ f r, (applyFiles d l).revs[f]? = some r → ∀ i, i < r.applied → (f, i) ∈ (applyFiles d l).journal := by
  induction l generalizing d with
  | nil => exact hd
  | cons g gs ih => exact ih (partFile_rev_le hd _ (Nat.le_refl _))

/-! ### succeeding and failing files -/

/-- a file without directive whose statements all succeed. -/
def TFile.AllOk (f : TFile) : Prop := f.directive = none ∧ ∀ b ∈ f.ok, b = true
def AllOk (dir : List TFile) : Prop := ∀ f ∈ dir, f.AllOk

/-- a file whose statement `j` fails, all earlier ones succeed; no directive (used by `Props.C13.FailDir` only). -/
structure TFile.FailsAt (f : TFile) (j : Nat) : Prop where
  nodir : f.directive = none
  lt : j < f.ok.length
  bad : f.ok[j]? = some false
  good : ∀ i, i < j → f.ok[i]? = some true

/-- a succeeding file that `modeFor` lets run in `file` or `none` mode (any directive). -/
structure TFile.OkIn (cfg : Cfg) (f : TFile) : Prop where
  stmts : ∀ b ∈ f.ok, b = true
  mode : modeFor cfg f = some .file ∨ modeFor cfg f = some .none

/-- a file whose statement `j` fails, in `file` or `none` mode (any directive). -/
structure TFile.FailsIn (cfg : Cfg) (f : TFile) (j : Nat) : Prop where
  lt : j < f.ok.length
  bad : f.ok[j]? = some false
  good : ∀ i, i < j → f.ok[i]? = some true
  mode : modeFor cfg f = some .file ∨ modeFor cfg f = some .none

/-- succeeding files, each running apart from its neighbours in its own mode. -/
def Good (cfg : Cfg) (files : List TFile) : Prop := ∀ f ∈ files, Apart cfg f ∧ ∀ b ∈ f.ok, b = true

theorem Good.of_subset {cfg : Cfg} {l l' : List TFile} (h : Good cfg l) (hs : l' ⊆ l) : Good cfg l' :=
  fun f hf => h f (hs hf)

theorem Good.of_allOk {cfg : Cfg} (hm : cfg.mode = .file ∨ cfg.mode = .none) {l : List TFile} (h : AllOk l) :
    Good cfg l :=
  fun f hf => ⟨Apart.of_nodir (h f hf).1 hm, (h f hf).2⟩

theorem Good.of_okIn {cfg : Cfg} (hfix : cfg.fixed = true) {l : List TFile} (h : ∀ f ∈ l, f.OkIn cfg) : Good cfg l :=
  fun f hf => ⟨Apart.of_fixed hfix (h f hf).mode, (h f hf).stmts⟩

/-! ### the loop on succeeding files that run apart -/

/-- fresh files (`hfi`, `hn`: no row of theirs yet): the loop succeeds and applies every file. -/
theorem planFiles_good {cfg : Cfg} {db : Db} {files : List TFile} {fi : Nat} {d : Db} (h : Good cfg files)
    (hfi : d.revs.length = fi) (hn : db.revs.length ≤ fi) :
    (planFiles cfg db false fi files).2 = true ∧
    applyOps { dur := d } (planFiles cfg db false fi files).1 = { dur := applyFiles d files } := by
  induction files generalizing fi d with
  | nil => exact ⟨rfl, rfl⟩
  | cons f rest ih =>
    obtain ⟨ha, hf⟩ := h f (List.mem_cons_self ..)
    obtain ⟨hok, heff⟩ := fileOps_fresh_run hf hfi hn
    obtain ⟨hok', hrun'⟩ := ih (fi := fi + 1) (d := applyFile d f) (h.of_subset (List.subset_cons_self ..))
      (by simp [applyFile, hfi]) (by omega)
    rw [planFiles_cons_ok db fi rest ha hok, applyOps_append, block_run (fileOps_plain db fi f) d, if_neg (by simp),
      heff, hrun']
    exact ⟨hok', rfl⟩

/-- `planFiles_crash` on succeeding files, in values: `applyFiles`, `partFile`. -/
theorem planFiles_good_crash {cfg : Cfg} {db : Db} {files : List TFile} {fi : Nat} {d : Db} (h : Good cfg files)
    (hfi : d.revs.length = fi) (hn : db.revs.length ≤ fi) (k : Nat) :
    ∃ t, t ≤ files.length ∧
      (crashAt d (planFiles cfg db false fi files).1 k = applyFiles d (files.take t) ∨
       ∃ f i a, files[t]? = some f ∧ modeFor cfg f ≠ some .file ∧ a ≤ i ∧ i ≤ a + 1 ∧ i ≤ f.ok.length ∧
         crashAt d (planFiles cfg db false fi files).1 k = partFile (applyFiles d (files.take t)) i a f.ok.length) := by
  obtain ⟨t, ht, -, hcase⟩ := planFiles_crash db (fun f hf => (h f hf).1) fi d k
  rw [runAll_of_closed (planFiles_good (h.of_subset (List.take_subset ..)) hfi hn).2] at hcase
  refine ⟨t, ht, ?_⟩
  rcases hcase with he | ⟨f, j, hf, hm, he⟩
  · exact Or.inl he
  · rcases fileOps_fresh_prefix (db := db) (D := applyFiles d (files.take t)) (fi := fi + t) (h f (List.mem_of_getElem? hf)).2
        (by rw [applyFiles_revs_length, List.length_take, Nat.min_eq_left ht, hfi]) (by omega) j
      with hp | ⟨i, a, hp, h1, h2, h3⟩
    · exact Or.inl (he.trans hp)
    · exact Or.inr ⟨f, i, a, hf, hm, h1, h2, h3, he.trans hp⟩

/-- a failing file behind succeeding ones: rolled back if it runs in its own transaction, else it keeps its recorded
prefix, with the error. -/
theorem planFiles_good_fail {cfg : Cfg} {db : Db} {good : List TFile} {bad : TFile} (rest : List TFile) {j : Nat}
    {fi : Nat} {d : Db} (hg : Good cfg good) (hb : Apart cfg bad) (hbad : bad.ok[j]? = some false)
    (hgood : ∀ i, i < j → bad.ok[i]? = some true) (hfi : d.revs.length = fi) (hn : db.revs.length ≤ fi) :
    (planFiles cfg db false fi (good ++ bad :: rest)).2 = false ∧
    runAll d (planFiles cfg db false fi (good ++ bad :: rest)).1 =
      if modeFor cfg bad = some .file then applyFiles d good else failedFile (applyFiles d good) j bad.ok.length := by
  obtain ⟨hok, hrun⟩ := planFiles_good hg hfi hn
  have hfail := fileOps_fresh_fail_flag (db := db) (fi := fi + good.length) hbad hgood (by omega)
  have heff := fileOps_fresh_fail_effect (db := db) (D := applyFiles d good) (fi := fi + good.length) hbad hgood
    (by rw [applyFiles_revs_length, hfi]) (by omega)
  rw [planFiles_append _ (fun f hf => (hg f hf).1) hok, planFiles_cons db _ rest hb, hfail]
  refine ⟨rfl, ?_⟩
  rw [runAll_append hrun, if_neg (by simp), List.append_nil, runAll_of_closed (block_run (fileOps_plain db _ bad) _), heff]
  by_cases hm : modeFor cfg bad = some .file <;> simp [hm]

/-! ### `--tx-mode all` -/

/-- mode `all`, the transaction open: everything is applied by the COMMIT. -/
theorem planFiles_all_commit {cfg : Cfg} (hm : cfg.mode = .all) {db : Db} {files : List TFile} {fi : Nat} (d : Db) {w : Db}
    (h : AllOk files) (hfi : w.revs.length = fi) (hn : db.revs.length ≤ fi) :
    (planFiles cfg db true fi files).2 = true ∧
    applyOps { dur := d, work := some w } (planFiles cfg db true fi files).1 = { dur := applyFiles w files } := by
  induction files generalizing fi w with
  | nil => exact ⟨rfl, rfl⟩
  | cons f rest ih =>
    have hf := h f (List.mem_cons_self ..)
    obtain ⟨hok, heff⟩ := fileOps_fresh_run hf.2 hfi hn
    obtain ⟨hok', hrun'⟩ := ih (fi := fi + 1) (w := applyFile w f) (fun x hx => h x (List.mem_cons_of_mem _ hx))
      (by simp [applyFile, hfi]) (by omega)
    rw [planFiles_cons_all db true fi rest (modeFor_nodir hf.1 hm), hok, hok', if_pos rfl,
      if_pos rfl, List.nil_append, applyOps_append, applyOps_plain_open_eq (fileOps_plain db fi f), heff, hrun']
    exact ⟨rfl, rfl⟩

/-- any mode: `all` by the one COMMIT (`planFiles_all_commit`), `file` / `none` as `Good` files. -/
theorem planFiles_allOk (cfg : Cfg) {db : Db} {files : List TFile} {fi : Nat} {d : Db}
    (h : AllOk files) (hfi : d.revs.length = fi) (hn : db.revs.length ≤ fi) :
    (planFiles cfg db false fi files).2 = true ∧ runAll d (planFiles cfg db false fi files).1 = applyFiles d files := by
  by_cases hm : cfg.mode = .all
  · cases files with
    | nil => exact ⟨rfl, rfl⟩
    | cons f rest =>
      obtain ⟨hok, hrun⟩ := planFiles_all_commit hm d h hfi hn
      rw [planFiles_all_begin db fi rest (modeFor_nodir (h f (List.mem_cons_self ..)).1 hm)]
      exact ⟨hok, by show (applyOps { dur := d, work := some d } _).crash = _; rw [hrun]; rfl⟩
  · have hm' : cfg.mode = .file ∨ cfg.mode = .none := by
      cases hc : cfg.mode <;> first | exact absurd hc hm | simp
    have hg : Good cfg files := Good.of_allOk hm' h
    obtain ⟨hok, hrun⟩ := planFiles_good hg hfi hn
    exact ⟨hok, runAll_of_closed hrun⟩

/-! ### the command -/

theorem pendingStart_applyFiles (l : List TFile) : pendingStart (applyFiles {} l) = l.length := by
  unfold pendingStart
  rw [applyFiles_eq]
  simp only [List.nil_append, List.length_map, List.getLast?_map]
  cases h : l.getLast? with
  | none => simp [List.getLast?_eq_none_iff.mp h]
  | some f => simp

theorem pendingStart_partial (J : List (Nat × Nat)) (pre : List Rev) {r : Rev} (h : r.applied < r.total) :
    pendingStart { journal := J, revs := pre ++ [r] } = pre.length := by
  simp [pendingStart, h]

/-- the command without a count from a database whose last row belongs to a file not completely applied - a
`partFile d i a m` (`e = false`) or a `failedFile d j m` (`e = true`), `pre = d.revs`: `Execute` resumes at `a`. -/
theorem plan_resume {cfg : Cfg} (hc : cfg.count = none) (hd : cfg.dryRun = false) {dir : List TFile}
    (J : List (Nat × Nat)) {pre : List Rev} {a : Nat} (e : Bool) {f : TFile} {rest : List TFile}
    (hdir : dir.drop pre.length = f :: rest) (ha : a < f.ok.length) (hg : Good cfg (f :: rest)) :
    runAll ⟨J, pre ++ [⟨a, f.ok.length, e⟩]⟩ (plan cfg dir ⟨J, pre ++ [⟨a, f.ok.length, e⟩]⟩).1 =
      applyFiles ⟨J ++ (List.range' a (f.ok.length - a)).map (fun i => (pre.length, i)),
                  pre ++ [⟨f.ok.length, f.ok.length, false⟩]⟩ rest := by
  have hplan : plan cfg dir ⟨J, pre ++ [⟨a, f.ok.length, e⟩]⟩ =
      planFiles cfg ⟨J, pre ++ [⟨a, f.ok.length, e⟩]⟩ false pre.length (f :: rest) := by
    simp [plan, hd, hc, limit, pendingStart_partial J pre (r := ⟨a, f.ok.length, e⟩) ha, hdir]
  obtain ⟨haf, hf⟩ := hg f (List.mem_cons_self ..)
  obtain ⟨hok, heff⟩ := fileOps_resume_run (db := ⟨J, pre ++ [⟨a, f.ok.length, e⟩]⟩) J ⟨a, f.ok.length, e⟩ hf
    (List.getElem?_concat_length ..)
  obtain ⟨hok', hrun'⟩ := planFiles_good (db := ⟨J, pre ++ [⟨a, f.ok.length, e⟩]⟩) (fi := pre.length + 1) (d :=
    ⟨J ++ (List.range' a (f.ok.length - a)).map (fun i => (pre.length, i)), pre ++ [⟨f.ok.length, f.ok.length, false⟩]⟩)
    (hg.of_subset (List.subset_cons_self ..)) (by simp) (by simp)
  refine runAll_of_closed ?_
  rw [hplan, planFiles_cons_ok _ _ rest haf hok, applyOps_append, block_run (fileOps_plain _ _ _), if_neg (by simp),
    heff, hrun']

end Atlas.Tx

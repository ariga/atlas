/-
`SortChanges` (sql/internal/sqlx/plan.go): under a rank decreasing along every dependency edge the depth-first
`add` closure is a topological sort (`dfs_correct`), and the edges computed from `dependsOn` (sqlx_oss.go) with
the inverse-edge suppression are exactly the dependencies (`hasE_sound`, `hasE_complete`). (C04)
-/
import Lemmas.SortMap

namespace Atlas.Sort

theorem nodup_of_map_id {l : List Ch} (h : (l.map (·.id)).Nodup) : l.Nodup :=
  List.Pairwise.of_map (·.id) (fun _ _ hne e => hne (congrArg _ e)) h

/-! ### the depth-first closure -/

section Dfs
variable (edges : Ch → List Ch) (rk : Ch → Nat) (all : List Ch)

/-- every dependency of a planned change was planned before it. -/
def Closed (planned : List Ch) : Prop :=
  ∀ pre p post, planned = pre ++ p :: post → ∀ d ∈ edges p, d ∈ pre

/-- white in the DFS colouring; `dfs_main` counts its fuel in these. -/
def white (st : AddSt) : Nat := (all.filter (fun x => !st.added.contains x.id)).length

/-- planned ⊆ `all`, marked, once each, each after its dependencies. -/
structure Inv (st : AddSt) : Prop where
  sub : ∀ p ∈ st.planned, p ∈ all ∧ p.id ∈ st.added
  nodup : (st.planned.map (·.id)).Nodup
  closed : Closed edges st.planned

/-- marked, unplanned changes (their `add` calls are still running) have rank ≥ `B`. -/
def GrayAbove (st : AddSt) (B : Nat) : Prop :=
  ∀ g ∈ all, g.id ∈ st.added → g ∉ st.planned → B ≤ rk g

/-- `fresh`: what a call plans was unmarked at its start (so `c` is not planned while its dependencies are);
`done`: what it marks it also plans. -/
structure Post (st st' : AddSt) : Prop where
  mono : ∀ i ∈ st.added, i ∈ st'.added
  planned_mono : ∀ p ∈ st.planned, p ∈ st'.planned
  fresh : ∀ p ∈ st'.planned, p.id ∈ st.added → p ∈ st.planned
  inv : Inv edges all st'
  done : ∀ g ∈ all, g.id ∈ st'.added → g ∉ st'.planned → g.id ∈ st.added

theorem addCh_succ (fuel : Nat) (c : Ch) (st : AddSt) (h : st.added.contains c.id = false) :
    addCh edges (fuel + 1) c st =
      { (addAll edges fuel (edges c) { st with added := c.id :: st.added }) with
        planned := (addAll edges fuel (edges c) { st with added := c.id :: st.added }).planned ++ [c] } := by
  have h' : c.id ∉ st.added := by simpa using h
  rw [addCh]; simp [h']

theorem addAll_nil (fuel : Nat) (st : AddSt) : addAll edges fuel [] st = st := by
  cases fuel <;> simp [addAll]

theorem addAll_cons (fuel : Nat) (d : Ch) (ds : List Ch) (st : AddSt) :
    addAll edges (fuel + 1) (d :: ds) st =
      addAll edges fuel ds (if st.added.contains d.id then st else addCh edges fuel d st) := by
  rw [addAll]

variable {edges rk all}

theorem white_filter {st st' : AddSt} (h : ∀ i ∈ st.added, i ∈ st'.added) :
    all.filter (fun x => !st'.added.contains x.id) =
      (all.filter (fun x => !st.added.contains x.id)).filter (fun x => !st'.added.contains x.id) := by
  rw [List.filter_filter]
  refine List.filter_congr (fun x _ => ?_)
  by_cases hx : x.id ∈ st'.added
  · simp [hx]
  · simpa [hx] using fun hm => hx (h _ hm)

theorem white_le {st st' : AddSt} (h : ∀ i ∈ st.added, i ∈ st'.added) : white all st' ≤ white all st := by
  unfold white; rw [white_filter h]; exact List.length_filter_le _ _

theorem white_lt {st st' : AddSt} (h : ∀ i ∈ st.added, i ∈ st'.added) {c : Ch} (hc : c ∈ all)
    (hw : c.id ∉ st.added) (hb : c.id ∈ st'.added) : white all st' < white all st := by
  unfold white; rw [white_filter h]
  exact List.length_filter_lt_length_iff_exists.mpr
    ⟨c, List.mem_filter.mpr ⟨hc, by simpa using hw⟩, by simpa using hb⟩

theorem white_pos {st : AddSt} {c : Ch} (hc : c ∈ all) (hw : c.id ∉ st.added) : 0 < white all st := by
  unfold white
  apply List.length_pos_of_mem (a := c)
  rw [List.mem_filter]
  exact ⟨hc, by simpa using hw⟩

theorem Post.refl {st : AddSt} (h : Inv edges all st) : Post edges all st st :=
  ⟨fun _ hi => hi, fun _ hp => hp, fun _ hp _ => hp, h, fun _ _ h1 _ => h1⟩

theorem Post.trans {a b c : AddSt} (h1 : Post edges all a b) (h2 : Post edges all b c) : Post edges all a c :=
  ⟨fun i hi => h2.mono i (h1.mono i hi), fun p hp => h2.planned_mono p (h1.planned_mono p hp),
    fun p hp hi => h1.fresh p (h2.fresh p hp (h1.mono _ hi)) hi, h2.inv,
    fun g hg h3 h4 => h1.done g hg (h2.done g hg h3 h4) fun hm => h4 (h2.planned_mono g hm)⟩

theorem Post.gray {a b : AddSt} (h : Post edges all a b) {B : Nat} (hg : GrayAbove rk all a B) : GrayAbove rk all b B :=
  fun g hga h1 h2 => hg g hga (h.done g hga h1 h2) fun hm => h2 (h.planned_mono g hm)

theorem closed_snoc {planned : List Ch} {c : Ch} (h : Closed edges planned)
    (hc : ∀ d ∈ edges c, d ∈ planned) : Closed edges (planned ++ [c]) := by
  intro pre p post heq
  rcases snoc_split heq with ⟨rfl, rfl⟩ | ⟨post', h'⟩
  · exact hc
  · exact h pre p post' h'

theorem Inv.snoc {st : AddSt} {c : Ch} (hid : ∀ x ∈ all, ∀ y ∈ all, x.id = y.id → x = y)
    (h : Inv edges all st) (hc : c ∈ all) (hca : c.id ∈ st.added) (hcp : c ∉ st.planned)
    (hdeps : ∀ d ∈ edges c, d ∈ st.planned) : Inv edges all { st with planned := st.planned ++ [c] } where
  sub p hp := by
    rcases List.mem_append.mp hp with hp | hp
    · exact h.sub p hp
    · rw [List.mem_singleton.mp hp]; exact ⟨hc, hca⟩
  nodup := by
    rw [List.map_append, List.nodup_append]
    refine ⟨h.nodup, List.pairwise_singleton _ _, ?_⟩
    intro a ha b hb heq
    obtain ⟨p, hp, rfl⟩ := List.mem_map.mp ha
    rw [List.mem_singleton.mp hb] at heq
    exact hcp (hid p (h.sub p hp).1 c hc heq ▸ hp)
  closed := closed_snoc h.closed hdeps

/-- `e + (N+2)·w' < (N+2)·(w'+1) ≤ (N+2)·w ≤ fuel + 1`: marking took one white change away. -/
theorem fuel_step {N w w' e fuel : Nat} (hw : w' < w) (he : e ≤ N) (hf : (N + 2) * w ≤ fuel + 1) :
    e + (N + 2) * w' ≤ fuel :=
  Nat.le_of_lt_succ (Nat.lt_of_lt_of_le
    (Nat.add_lt_add_right (Nat.lt_of_le_of_lt he (Nat.lt_add_of_pos_right (Nat.zero_lt_succ 1))) _)
    (Nat.le_trans (by rw [Nat.add_comm, ← Nat.mul_succ]; exact Nat.mul_le_mul_left _ hw) hf))

/-- By induction on the fuel (`N + 2` per white change). Marked and unplanned changes (calls still running)
rank above the change being visited, its dependencies below: a dependency found marked is planned. -/
theorem dfs_main (N : Nat)
    (hid : ∀ x ∈ all, ∀ y ∈ all, x.id = y.id → x = y)
    (hsub : ∀ c ∈ all, ∀ d ∈ edges c, d ∈ all)
    (hrk : ∀ c ∈ all, ∀ d ∈ edges c, rk d < rk c)
    (hlen : ∀ c ∈ all, (edges c).length ≤ N) :
    ∀ fuel,
      (∀ c st, c ∈ all → c.id ∉ st.added → Inv edges all st → GrayAbove rk all st (rk c + 1) →
          (N + 2) * white all st ≤ fuel →
          Post edges all st (addCh edges fuel c st) ∧ c ∈ (addCh edges fuel c st).planned) ∧
      (∀ ds st B, (∀ d ∈ ds, d ∈ all ∧ rk d < B) → Inv edges all st → GrayAbove rk all st B →
          ds.length + (N + 2) * white all st ≤ fuel →
          Post edges all st (addAll edges fuel ds st) ∧ ∀ d ∈ ds, d ∈ (addAll edges fuel ds st).planned) := by
  intro fuel
  induction fuel with
  | zero =>
    refine ⟨?_, ?_⟩
    · intro c st hc hw _ _ hf
      exact absurd hf (Nat.not_le.mpr (Nat.mul_pos (Nat.succ_pos _) (white_pos hc hw)))
    · intro ds st B _ hinv _ hf
      cases ds with
      | nil => rw [addAll_nil]; exact ⟨Post.refl hinv, fun _ h => nomatch h⟩
      | cons d t => rw [List.length_cons, Nat.succ_add] at hf; exact absurd hf (Nat.not_succ_le_zero _)
  | succ fuel ih =>
    obtain ⟨ihC, ihA⟩ := ih
    refine ⟨?_, ?_⟩
    · intro c st hc hw hinv hgray hf
      rw [addCh_succ edges fuel c st (by rw [List.contains_eq_mem, decide_eq_false hw])]
      -- the state after marking c: c is the one new marked and unplanned change
      have hinv1 : Inv edges all { st with added := c.id :: st.added } :=
        ⟨fun p hp => ⟨(hinv.sub p hp).1, List.mem_cons_of_mem _ (hinv.sub p hp).2⟩, hinv.nodup, hinv.closed⟩
      have hgray1 : GrayAbove rk all { st with added := c.id :: st.added } (rk c) := by
        intro g hg h1 h2
        rcases List.mem_cons.mp h1 with h1 | h1
        · rw [hid g hg c hc h1]; exact Nat.le_refl _
        · exact Nat.le_of_succ_le (hgray g hg h1 h2)
      have hw1 : white all { st with added := c.id :: st.added } < white all st :=
        white_lt (fun i hi => List.mem_cons_of_mem _ hi) hc hw (List.mem_cons_self ..)
      obtain ⟨hpost, hall⟩ := ihA (edges c) { st with added := c.id :: st.added } (rk c)
        (fun d hd => ⟨hsub c hc d hd, hrk c hc d hd⟩) hinv1 hgray1 (fuel_step hw1 (hlen c hc) hf)
      generalize addAll edges fuel (edges c) { st with added := c.id :: st.added } = st2 at hpost hall
      have hcnot : c ∉ st2.planned := fun hm => hw (hinv.sub c (hpost.fresh c hm (List.mem_cons_self ..))).2
      refine ⟨⟨fun i hi => hpost.mono i (List.mem_cons_of_mem _ hi),
        fun p hp => List.mem_append_left _ (hpost.planned_mono p hp), fun p hp hi => ?_,
        Inv.snoc hid hpost.inv hc (hpost.mono _ (List.mem_cons_self ..)) hcnot hall, fun g hg h1 h2 => ?_⟩,
        List.mem_append_right _ (List.mem_singleton_self c)⟩
      · rcases List.mem_append.mp hp with hp | hp
        · exact hpost.fresh p hp (List.mem_cons_of_mem _ hi)
        · rw [List.mem_singleton.mp hp] at hi; exact absurd hi hw
      · -- `g` was marked by the call: it is `c` (planned now) or was marked before
        rcases List.mem_cons.mp (hpost.done g hg h1 fun hm => h2 (List.mem_append_left _ hm)) with h3 | h3
        · exact absurd (List.mem_append_right _ (List.mem_singleton.mpr (hid g hg c hc h3))) h2
        · exact h3
    · intro ds st B hds hinv hgray hf
      cases ds with
      | nil => rw [addAll_nil]; exact ⟨Post.refl hinv, fun _ h => nomatch h⟩
      | cons d t =>
        rw [addAll_cons]
        have hd := hds d (List.mem_cons_self ..)
        have ht : ∀ x ∈ t, x ∈ all ∧ rk x < B := fun x hx => hds x (List.mem_cons_of_mem _ hx)
        have hft : t.length + (N + 2) * white all st ≤ fuel := by
          rw [List.length_cons, Nat.add_right_comm] at hf; exact Nat.le_of_succ_le_succ hf
        by_cases hdm : d.id ∈ st.added
        · rw [if_pos (List.contains_iff_mem.mpr hdm)]
          -- marked already, hence planned (`hgray`)
          have hdp : d ∈ st.planned :=
            Classical.byContradiction fun hp => Nat.not_le.mpr hd.2 (hgray d hd.1 hdm hp)
          obtain ⟨hpost, hall⟩ := ihA t st B ht hinv hgray hft
          exact ⟨hpost, List.forall_mem_cons.mpr ⟨hpost.planned_mono d hdp, hall⟩⟩
        · rw [if_neg (fun h => hdm (List.contains_iff_mem.mp h))]
          obtain ⟨hp1, hd1⟩ := ihC d st hd.1 hdm hinv
            (fun g hg h1 h2 => Nat.le_trans hd.2 (hgray g hg h1 h2)) (Nat.le_trans (Nat.le_add_left _ _) hft)
          generalize addCh edges fuel d st = st1 at hp1 hd1
          obtain ⟨hp2, hall⟩ := ihA t st1 B ht hp1.inv (hp1.gray hgray)
            (Nat.le_trans (Nat.add_le_add_left (Nat.mul_le_mul_left _ (white_le hp1.mono)) _) hft)
          exact ⟨hp1.trans hp2, List.forall_mem_cons.mpr ⟨hp2.planned_mono d hd1, hall⟩⟩

/-- the outer loop of `SortChanges`: `for _, c := range changes { if !added[c] { add(c) } }`. -/
def addLoop (edges : Ch → List Ch) (fuel : Nat) (cs : List Ch) (st : AddSt) : AddSt :=
  cs.foldl (fun st c => if st.added.contains c.id then st else addCh edges fuel c st) st

theorem addLoop_cons (edges : Ch → List Ch) (fuel : Nat) (c : Ch) (t : List Ch) (st : AddSt) :
    addLoop edges fuel (c :: t) st =
      addLoop edges fuel t (if st.added.contains c.id then st else addCh edges fuel c st) := rfl

theorem addLoop_append (edges : Ch → List Ch) (fuel : Nat) (l₁ l₂ : List Ch) (st : AddSt) :
    addLoop edges fuel (l₁ ++ l₂) st = addLoop edges fuel l₂ (addLoop edges fuel l₁ st) := List.foldl_append

/-- between two calls of the loop no call is running: `GrayAbove` at any bound. -/
theorem dfs_loop (N fuel : Nat)
    (hid : ∀ x ∈ all, ∀ y ∈ all, x.id = y.id → x = y)
    (hsub : ∀ c ∈ all, ∀ d ∈ edges c, d ∈ all)
    (hrk : ∀ c ∈ all, ∀ d ∈ edges c, rk d < rk c)
    (hlen : ∀ c ∈ all, (edges c).length ≤ N)
    (hfuel : (N + 2) * all.length ≤ fuel) :
    ∀ (cs : List Ch) (st : AddSt), (∀ c ∈ cs, c ∈ all) → Inv edges all st → (∀ B, GrayAbove rk all st B) →
      Post edges all st (addLoop edges fuel cs st) ∧ ∀ c ∈ cs, c ∈ (addLoop edges fuel cs st).planned := by
  intro cs
  induction cs with
  | nil => intro st _ hinv _; exact ⟨Post.refl hinv, fun _ h => nomatch h⟩
  | cons c t ih =>
    intro st hcs hinv hng
    rw [addLoop_cons]
    have hc := hcs c (List.mem_cons_self ..)
    have ht : ∀ x ∈ t, x ∈ all := fun x hx => hcs x (List.mem_cons_of_mem _ hx)
    by_cases hw : c.id ∈ st.added
    · rw [if_pos (List.contains_iff_mem.mpr hw)]
      have hcp : c ∈ st.planned :=
        Classical.byContradiction fun hp => Nat.not_succ_le_self _ (hng (rk c + 1) c hc hw hp)
      obtain ⟨hpost, hall⟩ := ih st ht hinv hng
      exact ⟨hpost, List.forall_mem_cons.mpr ⟨hpost.planned_mono c hcp, hall⟩⟩
    · rw [if_neg (fun h => hw (List.contains_iff_mem.mp h))]
      obtain ⟨hp1, hcp⟩ := (dfs_main N hid hsub hrk hlen fuel).1 c st hc hw hinv (hng _)
        (Nat.le_trans (Nat.mul_le_mul_left _ (List.length_filter_le _ all)) hfuel)
      generalize addCh edges fuel c st = st1 at hp1 hcp
      obtain ⟨hp2, hall⟩ := ih st1 ht hp1.inv (fun B => hp1.gray (hng B))
      exact ⟨hp1.trans hp2, List.forall_mem_cons.mpr ⟨hp2.planned_mono c hcp, hall⟩⟩

/-- **dfs_correct**: with enough fuel and a rank decreasing along every edge, the planned list is a permutation of
the changes with every change after its dependencies. -/
theorem dfs_correct (N fuel : Nat)
    (hnd : (all.map (·.id)).Nodup)
    (hsub : ∀ c ∈ all, ∀ d ∈ edges c, d ∈ all)
    (hrk : ∀ c ∈ all, ∀ d ∈ edges c, rk d < rk c)
    (hlen : ∀ c ∈ all, (edges c).length ≤ N)
    (hfuel : (N + 2) * all.length ≤ fuel) :
    (addLoop edges fuel all {}).planned.Perm all ∧ Closed edges (addLoop edges fuel all {}).planned := by
  have hid := key_inj Ch.id hnd
  have hinv0 : Inv edges all ({} : AddSt) := by
    refine ⟨?_, ?_, ?_⟩
    · intro p hp; cases hp
    · simp
    · intro pre p post h; cases pre <;> simp at h
  obtain ⟨h1, h2⟩ := dfs_loop (rk := rk) N fuel hid hsub hrk hlen hfuel all {} (fun _ h => h) hinv0
    (by intro B g _ h; cases h)
  refine ⟨?_, h1.inv.closed⟩
  rw [List.perm_ext_iff_of_nodup (nodup_of_map_id h1.inv.nodup) (nodup_of_map_id hnd)]
  exact fun a => ⟨fun ha => (h1.inv.sub a ha).1, h2 a⟩

end Dfs

/-! ### the edges -/

/-- `allOf` … `edgesOf`: the `let`s of `sortChanges` (Atlas/Sort.lean), tied to it by `sortChanges_eq := rfl`. -/
def allOf (cs : List Ch) : List Ch := cs.filter (·.kind != .drop) ++ cs.filter (·.kind == .drop)

theorem allOf_perm (cs : List Ch) : (allOf cs).Perm cs := by
  simpa [allOf, bne] using List.filter_append_perm (·.kind != .drop) cs

def hasEStep (acc : List (Nat × Nat)) (p : Ch × Ch) : List (Nat × Nat) :=
  if p.1.id != p.2.id && !acc.contains (p.2.id, p.1.id) && dependsOn p.1 p.2 then acc ++ [(p.1.id, p.2.id)] else acc

def pairsOf (all : List Ch) : List (Ch × Ch) := all.flatMap (fun c1 => all.map (fun c2 => (c1, c2)))

def hasEOf (all : List Ch) : List (Nat × Nat) := (pairsOf all).foldl hasEStep []

def edgesOf (all : List Ch) (c : Ch) : List Ch := all.filter (fun d => (hasEOf all).contains (c.id, d.id))

theorem sortChanges_eq (cs : List Ch) :
    sortChanges cs =
      (addLoop (edgesOf (allOf cs)) (((allOf cs).length + 2) * ((allOf cs).length + 2) + ((allOf cs).length + 2))
        (allOf cs) {}).planned := rfl

theorem dependsOn_add_add {a b : Ch} (ha : a.kind = .add) (hb : b.kind = .add) :
    dependsOn a b = true ↔ ∃ fk ∈ a.fks, fk.ref = b.table := by
  simp only [dependsOn, ha, hb, refTo, List.any_eq_true, beq_iff_eq]

theorem dependsOn_add_modify {a b : Ch} (ha : a.kind = .add) (hb : b.kind = .modify) :
    dependsOn a b = true ↔ a.table ≠ b.table ∧ ∃ fk ∈ a.fks, fk.ref = b.table := by
  simp only [dependsOn, ha, hb, refTo, Bool.and_eq_true, bne_iff_ne, ne_eq, List.any_eq_true, beq_iff_eq]

theorem dependsOn_drop_drop {a b : Ch} (ha : a.kind = .drop) (hb : b.kind = .drop) :
    dependsOn a b = true ↔ ∃ fk ∈ b.fks, fk.ref = a.table := by
  simp only [dependsOn, ha, hb, refTo, List.any_eq_true, beq_iff_eq]

theorem dependsOn_modify_add {a b : Ch} (ha : a.kind = .modify) (hb : b.kind = .add) :
    dependsOn a b = true ↔ a.table = b.table ∨ ∃ fk, Sub.addFK fk ∈ a.subs ∧ fk.ref = b.table := by
  simp only [dependsOn, ha, hb, Bool.or_eq_true, beq_iff_eq, List.any_eq_true]
  refine or_congr Iff.rfl ⟨?_, fun ⟨fk, h1, h2⟩ => ⟨_, h1, beq_iff_eq.mpr h2⟩⟩
  rintro ⟨s, hs, h⟩
  cases s with
  | addFK fk => exact ⟨fk, hs, beq_iff_eq.mp h⟩
  | dropFK _ => cases h
  | other _ => cases h

theorem dependsOn_modify_eq_false {a b : Ch} (ha : a.kind = .modify) (hb : b.kind ≠ .add) : dependsOn a b = false := by
  unfold dependsOn; rw [ha]
  cases hk : b.kind with
  | add => exact absurd hk hb
  | drop => rfl
  | modify => rfl

theorem mem_hasEStep {acc : List (Nat × Nat)} {p : Ch × Ch} {e : Nat × Nat} :
    e ∈ hasEStep acc p ↔
      e ∈ acc ∨ (e = (p.1.id, p.2.id) ∧ p.1.id ≠ p.2.id ∧ (p.2.id, p.1.id) ∉ acc ∧ dependsOn p.1 p.2 = true) := by
  unfold hasEStep
  split <;> rename_i hc <;>
    simp only [Bool.and_eq_true, bne_iff_ne, ne_eq, Bool.not_eq_true', List.contains_eq_mem,
      decide_eq_false_iff_not] at hc
  · rw [List.mem_append, List.mem_singleton]
    exact or_congr_right ⟨fun h => ⟨h, hc.1.1, hc.1.2, hc.2⟩, fun h => h.1⟩
  · exact ⟨Or.inl, fun h => h.elim id (fun h => absurd ⟨⟨h.2.1, h.2.2.1⟩, h.2.2.2⟩ hc)⟩

theorem mem_pairsOf {all : List Ch} {a b : Ch} : (a, b) ∈ pairsOf all ↔ a ∈ all ∧ b ∈ all := by
  unfold pairsOf
  simp only [List.mem_flatMap, List.mem_map, Prod.mk.injEq]
  constructor
  · rintro ⟨x, hx, y, hy, rfl, rfl⟩; exact ⟨hx, hy⟩
  · rintro ⟨ha, hb⟩; exact ⟨a, ha, b, hb, rfl, rfl⟩

/-- a dependency between two different changes of `all`, by identities. -/
def RealEdge (all : List Ch) (e : Nat × Nat) : Prop :=
  ∃ a b, a ∈ all ∧ b ∈ all ∧ a.id = e.1 ∧ b.id = e.2 ∧ a.id ≠ b.id ∧ dependsOn a b = true

theorem hasE_fold_real {all : List Ch} {ps : List (Ch × Ch)} (hps : ∀ p ∈ ps, p ∈ pairsOf all) :
    ∀ e ∈ ps.foldl hasEStep [], RealEdge all e := by
  refine List.foldlRecOn (motive := fun acc => ∀ e ∈ acc, RealEdge all e) ps hasEStep (fun _ h => nomatch h)
    (fun acc hacc p hp e he => ?_)
  rcases mem_hasEStep.mp he with he | ⟨rfl, h1, -, h2⟩
  · exact hacc e he
  · have := (mem_pairsOf (a := p.1) (b := p.2)).mp (hps p hp)
    exact ⟨p.1, p.2, this.1, this.2, rfl, rfl, h1, h2⟩

theorem hasE_sound {all : List Ch} {i j : Nat} (h : (i, j) ∈ hasEOf all) :
    ∃ a b, a ∈ all ∧ b ∈ all ∧ a.id = i ∧ b.id = j ∧ a.id ≠ b.id ∧ dependsOn a b = true :=
  hasE_fold_real (fun _ h => h) (i, j) h

theorem edgesOf_sound {all : List Ch} (hid : ∀ x ∈ all, ∀ y ∈ all, x.id = y.id → x = y) {c d : Ch} (hc : c ∈ all)
    (h : d ∈ edgesOf all c) : d ∈ all ∧ c.id ≠ d.id ∧ dependsOn c d = true := by
  obtain ⟨hdm, hcon⟩ := List.mem_filter.mp h
  obtain ⟨a, b, ha, hb, hai, hbi, hab, hdep⟩ := hasE_sound (List.contains_iff_mem.mp hcon)
  obtain rfl := hid a ha c hc hai
  obtain rfl := hid b hb d hdm hbi
  exact ⟨hdm, hab, hdep⟩

/-- when a rank decreases along every dependency the inverse-edge suppression never fires and every dependency
is recorded. -/
theorem hasE_complete {all : List Ch} (rk : Ch → Nat)
    (hid : ∀ x ∈ all, ∀ y ∈ all, x.id = y.id → x = y)
    (hrk : ∀ a ∈ all, ∀ b ∈ all, dependsOn a b = true → a.id ≠ b.id → rk b < rk a)
    {a b : Ch} (ha : a ∈ all) (hb : b ∈ all) (hne : a.id ≠ b.id) (hd : dependsOn a b = true) :
    (a.id, b.id) ∈ hasEOf all := by
  obtain ⟨ps1, ps2, hsplit⟩ := List.append_of_mem (mem_pairsOf.mpr ⟨ha, hb⟩)
  unfold hasEOf
  rw [hsplit, List.foldl_append, List.foldl_cons]
  refine List.foldlRecOn ps2 hasEStep ?_ (fun _ hacc _ _ => mem_hasEStep.mpr (Or.inl hacc))
  have hinv : (b.id, a.id) ∉ ps1.foldl hasEStep [] := by
    intro hm
    obtain ⟨x, y, hx, hy, hxi, hyi, -, hdxy⟩ :=
      hasE_fold_real (all := all) (fun p hp => hsplit ▸ List.mem_append_left _ hp) _ hm
    rw [hid x hx b hb hxi, hid y hy a ha hyi] at hdxy
    exact Nat.lt_asymm (hrk a ha b hb hd hne) (hrk b hb a ha hdxy (Ne.symm hne))
  exact mem_hasEStep.mpr (Or.inr ⟨rfl, hne, hinv, hd⟩)

end Atlas.Sort

/-
The whole command `plan`: lemmas about `limit`, `plan_count` (a count is a cut of the directory), the statements
for ANY directory under `--tx-mode all / none / file` that C10 and C13 take over as `crash_*_any` / `fail_*_any`,
and `schema apply`.
-/
import Lemmas.TxDir

namespace Atlas.Tx

theorem limit_drop_subset {α : Type} {c : Option Nat} {l : List α} {t : Nat} : limit c (l.drop t) ⊆ l := by
  cases c with
  | none => exact List.drop_subset t l
  | some n => exact fun _ h => List.drop_subset t l (List.take_subset n _ h)

theorem limit_none {α : Type} (l : List α) : limit none l = l := rfl
theorem limit_some {α : Type} (n : Nat) (l : List α) : limit (some n) l = l.take n := rfl

/-- with or without a count, the command works on a prefix of the pending files. -/
theorem limit_eq_take {α : Type} (c : Option Nat) (l : List α) : limit c l = l.take (limit c l).length := by
  cases c with
  | none => exact (List.take_length).symm
  | some n =>
    show l.take n = l.take (l.take n).length
    rw [List.length_take, List.take_eq_take_min]

theorem length_limit_le {α : Type} (c : Option Nat) (l : List α) : (limit c l).length ≤ l.length := by
  rw [limit_eq_take c l, List.length_take]; exact Nat.min_le_right ..

theorem take_limit {α : Type} {c : Option Nat} {l : List α} {t : Nat} (h : t ≤ (limit c l).length) :
    (limit c l).take t = l.take t := by
  rw [limit_eq_take c l, List.take_take, Nat.min_eq_left h]

theorem getElem?_limit {α : Type} {c : Option Nat} {l : List α} {t : Nat} {x : α} (h : (limit c l)[t]? = some x) :
    l[t]? = some x := by
  cases c with
  | none => exact h
  | some n =>
    have h' : (l.take n)[t]? = some x := h
    rw [List.getElem?_take] at h'
    split at h'
    · exact h'
    · cases h'

theorem allOk_limit_drop {dir : List TFile} (h : AllOk dir) (c : Option Nat) (t : Nat) : AllOk (limit c (dir.drop t)) :=
  fun f hf => h f (limit_drop_subset hf)

/-- element `bad` behind `good` is among what the command is asked to apply: there is no count, or it reaches it. -/
theorem limit_reaches {α : Type} {c : Option Nat} {good : List α} (bad : α) (rest : List α) {t0 : Nat}
    (ht0 : t0 ≤ good.length) (hc : ∀ n, c = some n → good.length < t0 + n) :
    ∃ rest', limit c ((good ++ bad :: rest).drop t0) = good.drop t0 ++ bad :: rest' := by
  rw [List.drop_append_of_le_length ht0]
  cases c with
  | none => exact ⟨rest, rfl⟩
  | some n =>
    have hn : (good.drop t0).length < n := by have := hc n rfl; rw [List.length_drop]; omega
    obtain ⟨m, hm⟩ : ∃ m, n - (good.drop t0).length = m + 1 := ⟨n - (good.drop t0).length - 1, by omega⟩
    refine ⟨rest.take m, ?_⟩
    show (good.drop t0 ++ bad :: rest).take n = _
    rw [List.take_append, List.take_of_length_le (Nat.le_of_lt hn), hm, List.take_succ_cons]

/-- the configuration without its count. -/
def Cfg.noCount (cfg : Cfg) : Cfg := { cfg with count := none }

@[simp] theorem Cfg.noCount_mode (cfg : Cfg) : cfg.noCount.mode = cfg.mode := rfl
@[simp] theorem Cfg.noCount_fixed (cfg : Cfg) : cfg.noCount.fixed = cfg.fixed := rfl
@[simp] theorem Cfg.noCount_dryRun (cfg : Cfg) : cfg.noCount.dryRun = cfg.dryRun := rfl
@[simp] theorem Cfg.noCount_count (cfg : Cfg) : cfg.noCount.count = none := rfl

/-- `planFiles` reads the configuration only through `mode` and `fixed`. -/
theorem planFiles_cfg_congr {cfg cfg' : Cfg} (hm : cfg'.mode = cfg.mode) (hf : cfg'.fixed = cfg.fixed) (db : Db) :
    ∀ (fs : List TFile) (txOpen : Bool) (fi : Nat), planFiles cfg' db txOpen fi fs = planFiles cfg db txOpen fi fs := by
  intro fs
  induction fs with
  | nil => intro txOpen fi; simp [planFiles]
  | cons f rest ih =>
    intro txOpen fi
    have hmf : modeFor cfg' f = modeFor cfg f := by simp [modeFor, hm]
    simp only [planFiles, hmf, hm, hf, ih]

/-- **plan_count**: `migrate apply n` = `migrate apply` on the directory cut `n` files after the first
pending one. -/
theorem plan_count (cfg : Cfg) (n : Nat) (hc : cfg.count = some n) (dir : List TFile) (db : Db) :
    plan cfg dir db = plan cfg.noCount (dir.take (pendingStart db + n)) db := by
  unfold plan
  by_cases hd : cfg.dryRun = true
  · have hd' : cfg.noCount.dryRun = true := hd
    rw [if_pos hd, if_pos hd']
  · have hd' : ¬ cfg.noCount.dryRun = true := hd
    rw [if_neg hd, if_neg hd']
    simp only [Cfg.noCount_count, hc, limit]
    rw [planFiles_cfg_congr (cfg := cfg) (cfg' := cfg.noCount) rfl rfl, List.drop_take]
    simp

/-- `Props.C13.fail_all_mode_any`. -/
theorem plan_all_fail_any (cfg : Cfg) (h : cfg.mode = .all) (dir : List TFile) (db : Db)
    (hf : (plan cfg dir db).2 = false) : runAll db (plan cfg dir db).1 = db := by
  unfold plan at hf ⊢
  by_cases hd : cfg.dryRun = true
  · rw [if_pos hd] at hf; cases hf
  · simp only [hd, Bool.false_eq_true, ↓reduceIte] at hf ⊢
    rcases planFiles_all_shape h db (limit cfg.count (dir.drop (pendingStart db))) (pendingStart db)
      with he | ⟨p, last, he, hp, hl⟩
    · rw [he]; rfl
    · -- one transaction, and its last operation is not COMMIT: whatever else it is, the working copy is lost
      rw [he]
      show (applyOps { dur := db, work := some db } (p ++ [last])).dur = db
      rw [applyOps_append, applyOps_plain_open_eq hp]
      cases last <;> first | rfl | (rw [hl rfl] at hf; cases hf)

/-- `Props.C10.crash_all_any`. -/
theorem plan_all_crash_any (cfg : Cfg) (h : cfg.mode = .all) (dir : List TFile) (db : Db) (k : Nat)
    (hk : k < (plan cfg dir db).1.length) : crashAt db (plan cfg dir db).1 k = db := by
  unfold plan at hk ⊢
  by_cases hd : cfg.dryRun = true
  · simp [hd] at hk
  · simp only [hd, Bool.false_eq_true, ↓reduceIte] at hk ⊢
    rcases planFiles_all_shape h db (limit cfg.count (dir.drop (pendingStart db))) (pendingStart db)
      with he | ⟨p, last, he, hp, -⟩
    · rw [he] at hk; cases hk
    · rw [he] at hk ⊢
      exact tx_crash hp hk

/-- `Props.C10.crash_none_any`. -/
theorem plan_none_crash_any (cfg : Cfg) (h : cfg.mode = .none) (dir : List TFile)
    (hd : ∀ f ∈ dir, f.directive = none) (db : Db) (k : Nat) :
    crashAt db (plan cfg dir db).1 k = ((plan cfg dir db).1.take k).foldl durApply db := by
  unfold plan
  by_cases hdr : cfg.dryRun = true
  · simp [hdr, crashAt, St.crash, applyOps]
  · simp only [hdr, Bool.false_eq_true, ↓reduceIte]
    have hp := planFiles_none_plain h db (files := limit cfg.count (dir.drop (pendingStart db)))
      (fun f hf => hd f (limit_drop_subset hf)) (pendingStart db)
    unfold crashAt St.crash
    rw [applyOps_plain_closed (fun op hop => hp op (List.mem_of_mem_take hop))]

/-- `Props.C10.crash_file_any`. -/
theorem plan_file_crash_any (cfg : Cfg) (h : cfg.mode = .file) (hfix : cfg.fixed = true) (hdr : cfg.dryRun = false)
    (dir : List TFile) (hd : ∀ f ∈ dir, f.directive = none) (db : Db) (k : Nat) :
    ∃ t, t ≤ (limit cfg.count (dir.drop (pendingStart db))).length ∧
      (planFiles cfg db false (pendingStart db) ((limit cfg.count (dir.drop (pendingStart db))).take t)).2 = true ∧
      crashAt db (plan cfg dir db).1 k =
        runAll db (planFiles cfg db false (pendingStart db) ((limit cfg.count (dir.drop (pendingStart db))).take t)).1 := by
  have hmode : ∀ f ∈ limit cfg.count (dir.drop (pendingStart db)), modeFor cfg f = some .file :=
    fun f hf => modeFor_nodir (hd f (limit_drop_subset hf)) h
  obtain ⟨t, ht, hok, he | ⟨f, _, hf, hne, _⟩⟩ := planFiles_crash db
    (fun f hf => Apart.of_fixed hfix (Or.inl (hmode f hf))) (pendingStart db) db k
  · exact ⟨t, ht, hok, by simpa [plan, hdr] using he⟩
  · exact absurd (hmode f (List.mem_of_getElem? hf)) hne

/-- the `schema apply` loop inside its transaction: all effects and COMMIT, or the durable state as it was
(`l.all id` is `∀ b ∈ l, b = true`). -/
theorem schemaApplyOps_effect (d : Db) : ∀ (l : List Bool) (i : Nat) (w : Db),
    applyOps { dur := d, work := some w } (schemaApplyOps i l) =
      if l.all id then { dur := { w with journal := w.journal ++ (List.range' i l.length).map (fun x => (0, x)) }, work := none }
      else { dur := d, work := none } := by
  intro l
  induction l with
  | nil => intro i w; simp [schemaApplyOps, applyOps, applyOp]
  | cons b bs ih =>
    intro i w
    cases b with
    | true =>
      simp only [schemaApplyOps, applyOps_cons, applyOp, St.write, Db.addStmt]
      rw [ih]
      simp [List.range'_succ]
    | false => simp [schemaApplyOps, applyOps, applyOp]

end Atlas.Tx

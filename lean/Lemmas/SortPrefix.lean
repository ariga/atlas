/-
`SortChanges` (sql/internal/sqlx/plan.go) on a change set whose non-drop changes have no dependency, as after
`detachReferences` on drops (`sortChanges_prefix`; C04).
-/
import Lemmas.SortDfs

namespace Atlas.Sort

section
variable (edges : Ch → List Ch)

theorem addCh_noedges (fuel : Nat) {c : Ch} {st : AddSt} (he : edges c = []) (h : st.added.contains c.id = false) :
    addCh edges (fuel + 1) c st = { added := c.id :: st.added, planned := st.planned ++ [c] } := by
  rw [addCh_succ edges fuel c st h, he, addAll_nil]

theorem addLoop_of_noedges (fuel : Nat) : ∀ (l : List Ch) (st : AddSt), (∀ c ∈ l, edges c = []) →
    (l.map (·.id)).Nodup → (∀ c ∈ l, c.id ∉ st.added) →
    addLoop edges (fuel + 1) l st = { added := (l.map (·.id)).reverse ++ st.added, planned := st.planned ++ l } := by
  intro l
  induction l with
  | nil => intro st _ _ _; rw [List.append_nil]; rfl
  | cons c t ih =>
    intro st he hnd hfresh
    rw [List.map_cons, List.nodup_cons] at hnd
    have hc : c.id ∉ st.added := hfresh c (List.mem_cons_self ..)
    have hfresh' : ∀ x ∈ t, x.id ∉ c.id :: st.added := fun x hx hmem => by
      rcases List.mem_cons.mp hmem with h | h
      · exact hnd.1 (h ▸ List.mem_map_of_mem hx)
      · exact hfresh x (List.mem_cons_of_mem _ hx) h
    rw [addLoop_cons, if_neg (fun h => hc (List.contains_iff_mem.mp h)),
      addCh_noedges edges fuel (he c (List.mem_cons_self ..)) (by rw [List.contains_eq_mem, decide_eq_false hc]),
      ih _ (fun x hx => he x (List.mem_cons_of_mem _ hx)) hnd.2 hfresh',
      List.map_cons, List.reverse_cons, List.append_assoc, List.append_assoc]
    rfl

theorem add_planned_prefix : ∀ fuel,
    (∀ c st, st.planned <+: (addCh edges fuel c st).planned) ∧
    (∀ ds st, st.planned <+: (addAll edges fuel ds st).planned) := by
  intro fuel
  induction fuel with
  | zero => exact ⟨fun c st => List.prefix_rfl, fun ds st => by cases ds <;> exact List.prefix_rfl⟩
  | succ f ih =>
    refine ⟨fun c st => ?_, fun ds st => ?_⟩
    · rw [addCh]
      split
      · exact List.prefix_rfl
      · exact List.prefix_append_of_prefix (ih.2 (edges c) { st with added := c.id :: st.added })
    · cases ds with
      | nil => rw [addAll_nil]; exact List.prefix_rfl
      | cons d ds =>
        rw [addAll_cons]
        split
        · exact ih.2 ds st
        · exact (ih.1 d st).trans (ih.2 ds _)

theorem addLoop_planned_prefix (fuel : Nat) : ∀ (l : List Ch) (st : AddSt), st.planned <+: (addLoop edges fuel l st).planned := by
  intro l
  induction l with
  | nil => intro st; exact List.prefix_rfl
  | cons c t ih =>
    intro st
    rw [addLoop_cons]
    split
    · exact ih st
    · exact ((add_planned_prefix edges fuel).1 c st).trans (ih _)

end

/-- **sortChanges_prefix**: when no change other than a table drop has a dependency edge, `SortChanges`
emits those changes first, in the given order; the drops follow. -/
theorem sortChanges_prefix (cs : List Ch) (hnd : (cs.map (·.id)).Nodup)
    (hno : ∀ c ∈ cs, c.kind ≠ .drop → edgesOf (allOf cs) c = []) :
    ∃ rest, sortChanges cs = cs.filter (·.kind != .drop) ++ rest := by
  rw [sortChanges_eq]
  generalize edgesOf (allOf cs) = E at hno ⊢
  -- the fuel is a successor (`addLoop_of_noedges` runs one `add` per change)
  obtain ⟨k, hk⟩ : ∃ k, ((allOf cs).length + 2) * ((allOf cs).length + 2) + ((allOf cs).length + 2) = k + 1 :=
    ⟨_, (Nat.add_succ _ _)⟩
  rw [hk, allOf, addLoop_append]
  obtain ⟨rest, hrest⟩ := addLoop_planned_prefix E (k + 1) (cs.filter (·.kind == .drop))
    (addLoop E (k + 1) (cs.filter (·.kind != .drop)) {})
  rw [addLoop_of_noedges E k _ {} (fun c hc => hno c (List.mem_filter.mp hc).1 (by simpa using (List.mem_filter.mp hc).2))
    (hnd.sublist (List.filter_sublist.map _)) (fun c _ h => nomatch h)] at hrest ⊢
  exact ⟨rest, hrest.symm⟩

end Atlas.Sort

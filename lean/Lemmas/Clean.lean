/-
What the first-run gate of each driver (`Atlas.Clean`) accepts: one characterisation per `CheckClean` variant.
-/
import Atlas.Clean

namespace Atlas.Clean

/-- what "clean" means for a set of tables: nothing but - possibly - the revision table. -/
def OnlyRev (tables : List String) (revT : String) : Prop := tables = [] ∨ tables = [revT]

theorem boundClean_iff (s : Sch) (revS revT : String) :
    boundClean s revS revT = true ↔ s.tables = [] ∨ ((revS = "" ∨ s.name = revS) ∧ s.tables = [revT]) := by
  unfold boundClean
  match s.tables with
  | [] => simp
  | [a] => simp
  | _ :: _ :: _ => simp

/-- the tail common to the three realm checks; `b` is the answer when the tables pass. -/
theorem onlyRev_ifs (ts : List String) (revT : String) (b : Bool) :
    (if ts.length > 1 then false else if (ts.length == 1 && ts.head? != some revT) then false else b) = true
      ↔ OnlyRev ts revT ∧ b = true := by
  unfold OnlyRev
  match ts with
  | [] => simp
  | [a] => simp
  | _ :: _ :: _ => simp

theorem mysqlRealmClean_iff (r : List Sch) (revS revT : String) (hn : (r.map (·.name)).Nodup) :
    mysqlRealmClean r revS revT = true ↔ ∀ s ∈ r, s.name = revS ∧ OnlyRev s.tables revT := by
  match r with
  | [] => simp [mysqlRealmClean]
  | [s] =>
    by_cases hs : s.name = revS
    · simpa [mysqlRealmClean, hs] using onlyRev_ifs s.tables revT true
    · simp [mysqlRealmClean, hs]
  | s1 :: s2 :: rest =>
    -- two databases cannot both be the revision database
    have hne : s1.name ≠ s2.name := by simp at hn; exact hn.1.1
    simp only [mysqlRealmClean, Bool.false_eq_true, false_iff]
    intro hall
    exact hne ((hall s1 (by simp)).1.trans (hall s2 (by simp)).1.symm)

theorem pgRealmClean_iff (r : List Sch) (revS revT : String) :
    pgRealmClean r revS revT = true ↔
      ∀ s ∈ r, (s.tables = [] ∧ s.name = "public") ∨ (s.name = revS ∧ s.tables = [revT]) := by
  induction r with
  | nil => simp [pgRealmClean]
  | cons s rest ih =>
    rw [pgRealmClean, List.forall_mem_cons, ← ih]
    by_cases h0 : s.tables = []
    · by_cases hp : s.name = "public" <;> simp [h0, hp]
    · by_cases hs : s.name = revS
      · simpa [h0, hs, OnlyRev] using onlyRev_ifs s.tables revT (pgRealmClean rest revS revT)
      · simp [h0, hs]

theorem sqliteClean_iff (r : List Sch) (revT : String) (hn : (r.map (·.name)).Nodup) :
    sqliteClean r revT = true ↔ ∀ s ∈ r, s.name = "main" ∧ OnlyRev s.tables revT :=
  -- `sqliteClean r revT` is `mysqlRealmClean r "main" revT` by definition
  mysqlRealmClean_iff r "main" revT hn

end Atlas.Clean

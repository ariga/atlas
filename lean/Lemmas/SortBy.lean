/-
Insertion sort (`Atlas.Sort.insertBy` / `sortBy`) over an arbitrary `lt : α → α → Bool`: the result is a
permutation of the input, it is sorted when `lt` is transitive and the elements are pairwise comparable,
and hence (with asymmetry) it does not depend on the order of the input. `stableSortBy` is `sortBy` of the
reversed input.
-/
import Atlas.Sort

namespace Atlas.Sort

variable {α : Type} (lt : α → α → Bool)

theorem insertBy_perm (x : α) (l : List α) : (insertBy lt x l).Perm (x :: l) := by
  induction l with
  | nil => exact .refl _
  | cons y ys ih =>
    unfold insertBy
    split
    · exact .refl _
    · exact (ih.cons y).trans (.swap x y ys)

theorem sortBy_perm (l : List α) : (sortBy lt l).Perm l := by
  induction l with
  | nil => exact .refl _
  | cons x xs ih => exact (insertBy_perm lt x _).trans (ih.cons x)

theorem insertBy_append_last (g f : α) (h : lt g f = true) (xs : List α) :
    insertBy lt g (xs ++ [f]) = insertBy lt g xs ++ [f] := by
  induction xs with
  | nil => simp only [List.nil_append, insertBy, h, if_true, List.cons_append]
  | cons x xs ih =>
    rw [List.cons_append, insertBy, insertBy, ih]
    split <;> rfl

theorem sortBy_append_last (f : α) (l : List α) (hl : ∀ g ∈ l, lt g f = true) :
    sortBy lt (l ++ [f]) = sortBy lt l ++ [f] := by
  induction l with
  | nil => rfl
  | cons g gs ih =>
    have ⟨hg, hgs⟩ := List.forall_mem_cons.mp hl
    exact (congrArg (insertBy lt g) (ih hgs)).trans (insertBy_append_last lt g f hg _)

theorem ins_eq_insertBy (x : α) : ∀ l : List α, stableSortBy.ins lt x l = insertBy lt x l
  | [] => rfl
  | y :: ys => by unfold stableSortBy.ins insertBy; rw [ins_eq_insertBy x ys]

theorem stableSortBy_eq (l : List α) : stableSortBy lt l = sortBy lt l.reverse := by
  unfold stableSortBy sortBy
  rw [List.foldl_eq_foldr_reverse]
  exact congrArg (fun f => List.foldr f [] l.reverse) (funext fun x => funext fun acc => ins_eq_insertBy lt x acc)

theorem stableSortBy_perm (l : List α) : (stableSortBy lt l).Perm l :=
  stableSortBy_eq lt l ▸ (sortBy_perm lt l.reverse).trans (List.reverse_perm l)

abbrev Cmp (a b : α) : Prop := lt a b = true ∨ lt b a = true

variable {lt} (htr : ∀ a b c, lt a b = true → lt b c = true → lt a c = true)
include htr

theorem insertBy_sorted (x : α) (l : List α) (hs : l.Pairwise (lt · · = true)) (hx : ∀ y ∈ l, Cmp lt x y) :
    (insertBy lt x l).Pairwise (lt · · = true) := by
  induction l with
  | nil => exact List.pairwise_singleton ..
  | cons y ys ih =>
    have ⟨hy, hys⟩ := List.pairwise_cons.mp hs
    unfold insertBy
    split
    · next hlt =>
      exact List.pairwise_cons.mpr ⟨fun z hz => (List.mem_cons.mp hz).elim (· ▸ hlt) (htr _ _ _ hlt <| hy z ·), hs⟩
    · next hnlt =>
      -- `x` goes somewhere behind `y`: `y` is below `x` (comparable, not above) and below the rest
      have hyx : lt y x = true := (hx y (List.mem_cons_self ..)).resolve_left hnlt
      refine List.pairwise_cons.mpr ⟨fun z hz => ?_, ih hys fun z hz => hx z (List.mem_cons_of_mem _ hz)⟩
      exact (List.mem_cons.mp ((insertBy_perm lt x ys).subset hz)).elim (· ▸ hyx) (hy z)

theorem sortBy_sorted (l : List α) (h : l.Pairwise (Cmp lt)) : (sortBy lt l).Pairwise (lt · · = true) := by
  induction l with
  | nil => exact .nil
  | cons x xs ih =>
    have ⟨hx, hxs⟩ := List.pairwise_cons.mp h
    exact insertBy_sorted htr x _ (ih hxs) fun y hy => hx y ((sortBy_perm lt xs).subset hy)

theorem sortBy_eq_of_perm (hasym : ∀ a b, lt a b = true → lt b a = false) {l₁ l₂ : List α}
    (hp : l₁.Perm l₂) (hc : l₁.Pairwise (Cmp lt)) : sortBy lt l₁ = sortBy lt l₂ :=
  List.Perm.eq_of_pairwise (le := (lt · · = true))
    (fun a b _ _ hab hba => absurd hba (by simp [hasym a b hab]))
    (sortBy_sorted htr l₁ hc) (sortBy_sorted htr l₂ (hp.pairwise hc Or.symm))
    ((sortBy_perm lt l₁).trans (hp.trans (sortBy_perm lt l₂).symm))

end Atlas.Sort

/-
What one `Execute` does to the journal and to the file's revision, under ANY fault schedule (C09).
-/
import Lemmas.Exec

namespace Atlas.Exec

/-- the table holds the complete record of file `m`. -/
def Complete (revs : List Revision) (m : MFile) : Prop :=
  ∃ r, findRev m.version revs = some r ∧ r.applied = m.stmts.length ∧ r.total = m.stmts.length

/-- `a` statements of `m` are recorded (no record at all counts as 0), with the hashes the resume
check will look for. -/
def Recorded (H : Text → String) (revs : List Revision) (m : MFile) (a : Nat) : Prop :=
  (findRev m.version revs = none ∧ a = 0) ∨
  (∃ r, findRev m.version revs = some r ∧ r.applied = a ∧ r.total = m.stmts.length ∧
    r.partialHashes = (sums H m.stmts).take a)

/-- specification of the statement loop started with the in-memory revision `r` persisted as far as progress
goes (`stmtLoop_post`). -/
structure LoopPost (sm : List String) (rest : List Text) (w : World) (r : Revision)
    (o : World × Revision × Res) : Prop where
  other : ∀ v, v ≠ r.version → findRev v o.1.revs = findRev v w.revs
  calls : ∃ c, o.1.calls = w.calls ++ c
  faults : o.1.faults = w.faults
  shape :
    -- all statements ran and were recorded
    (o.2.2 = .ok ∧ o.1.journal = w.journal ++ rest ∧ o.1.wfails = w.wfails ∧
      findRev r.version o.1.revs = some o.2.1 ∧ o.2.1.applied = r.applied + rest.length ∧
      o.2.1.partialHashes = r.partialHashes ++ (sm.drop r.applied).take rest.length ∧
      o.2.1.total = r.total ∧ o.2.1.version = r.version) ∨
    -- statement t failed: t recorded, nothing unrecorded
    (∃ t, t < rest.length ∧ o.2.2 = .stmt false ∧ o.1.journal = w.journal ++ rest.take t ∧
      o.1.wfails = w.wfails ∧ o.2.1.applied = r.applied + t ∧ o.2.1.version = r.version ∧
      o.2.1.total = r.total ∧
      o.2.1.partialHashes = r.partialHashes ++ (sm.drop r.applied).take t ∧
      ∃ p, findRev r.version o.1.revs = some p ∧ p.applied = r.applied + t ∧ p.total = r.total ∧
        p.partialHashes = r.partialHashes ++ (sm.drop r.applied).take t) ∨
    -- the write after statement t failed: t recorded, one executed but unrecorded
    (∃ t, t < rest.length ∧ o.2.2 = .writeRev ∧ o.1.journal = w.journal ++ rest.take (t + 1) ∧
      o.1.wfails = w.wfails + 1 ∧
      ∃ p, findRev r.version o.1.revs = some p ∧ p.applied = r.applied + t ∧ p.total = r.total ∧
        p.partialHashes = r.partialHashes ++ (sm.drop r.applied).take t)

@[simp] theorem bump_applied (sm : List String) (r : Revision) : (bump sm r).applied = r.applied + 1 := rfl
@[simp] theorem bump_total (sm : List String) (r : Revision) : (bump sm r).total = r.total := rfl
@[simp] theorem bump_version (sm : List String) (r : Revision) : (bump sm r).version = r.version := rfl

theorem bump_partial (sm : List String) (r : Revision) (h : r.applied < sm.length) :
    (bump sm r).partialHashes = r.partialHashes ++ (sm.drop r.applied).take 1 := by
  simp only [bump]
  rw [List.getElem?_eq_getElem h, List.drop_eq_getElem_cons h]
  rfl

theorem drop_take_succ (sm : List String) (a n : Nat) (h : a < sm.length) :
    (sm.drop a).take 1 ++ (sm.drop (a + 1)).take n = (sm.drop a).take (n + 1) := by
  rw [List.drop_eq_getElem_cons h]
  rfl

/-- `runStmts` refreshes `r`'s hash in memory: the persisted row agrees with `r` on progress only; it equals `r`
when nothing is left to run, because the ok case of `LoopPost` names the row exactly. -/
theorem stmtLoop_post (sm : List String) (rest : List Text) (w : World) (r : Revision)
    (hnil : rest = [] → findRev r.version w.revs = some r)
    (hweak : ∃ p, findRev r.version w.revs = some p ∧ p.applied = r.applied ∧ p.total = r.total ∧
      p.partialHashes = r.partialHashes)
    (hlen : r.applied + rest.length ≤ sm.length) :
    LoopPost sm rest w r (stmtLoop sm rest w r) := by
  refine ⟨fun _ hv => (stmtLoop_kept (Kept.other hv _) sm rest w r ⟨rfl, rfl⟩ rfl).1,
    (stmtLoop_kept (Kept.calls _ r) sm rest w r ⟨rfl, rfl⟩ ⟨[], (List.append_nil _).symm⟩).1,
    (stmtLoop_kept (Kept.faults _ r) sm rest w r ⟨rfl, rfl⟩ rfl).1, ?_⟩
  fun_induction stmtLoop sm rest w r with
  | case1 w r => exact Or.inl (by simp [hnil rfl])
  | case2 s rest w r w1 hE =>
    obtain ⟨p0, hp, hp0a, hp0t, hp0p⟩ := hweak
    obtain ⟨_, _, hr1, hwf1⟩ := execStmt_frame hE
    -- t = 0; then result, journal, wfails, applied, version, total, hashes, and the row `p0`
    exact Or.inr (Or.inl ⟨0, by simp, rfl, by simp [(execStmt_fail hE).1], hwf1, by simp, rfl, rfl, by simp, p0,
      by simp only [hr1]; exact hp, by simpa using hp0a, hp0t, by simpa using hp0p⟩)
  | case3 s rest w r w1 hE w2 hW =>
    obtain ⟨p0, hp, hp0a, hp0t, hp0p⟩ := hweak
    obtain ⟨_, _, hr1, hwf1⟩ := execStmt_frame hE
    have hj1 := execStmt_ok hE
    obtain ⟨hr2, hwf2, _⟩ := writeRevision_fail hW
    -- t = 0; result, journal, wfails; the row `p0`
    exact Or.inr (Or.inr ⟨0, by simp, rfl, by simp [(writeRevision_frame hW).2.2, hj1], by simp only [hwf2, hwf1], p0,
      by simp only [hr2, hr1]; exact hp, by simpa using hp0a, hp0t, by simpa using hp0p⟩)
  | case4 s rest w r w1 hE w2 hW ih =>
    have hal : r.applied < sm.length := by simp at hlen; omega
    obtain ⟨_, _, hr1, hwf1⟩ := execStmt_frame hE
    have hj1 := execStmt_ok hE
    obtain ⟨hr2, hwf2⟩ := writeRevision_ok hW
    have hp2 : findRev (bump sm r).version w2.revs = some (bump sm r) := by
      rw [hr2, findRev_upsert, if_pos rfl]
    have hsh := ih (fun _ => hp2) ⟨_, hp2, rfl, rfl, rfl⟩ (by simp at hlen ⊢; omega)
    -- shifted by one hash and one statement (`Nat.add_comm 1`: indices as `r.applied + (t + 1)`), the three cases
    -- of the rest of the loop are those of the loop, one index later
    simp only [bump_applied, bump_total, bump_version, bump_partial sm r hal, (writeRevision_frame hW).2.2, hj1,
      hwf2, hwf1, List.append_assoc, drop_take_succ sm r.applied _ hal,
      List.singleton_append, Nat.add_assoc, Nat.add_comm 1] at hsh
    rcases hsh with ⟨a1, a2, a3, a4, a5, a6, a7, a8⟩ | ⟨t, b1, b2, b3, b4, b5, b6, b7, b8, b9⟩ |
        ⟨t, c1, c2, c3, c4, c5⟩
    · exact Or.inl ⟨a1, a2, a3, a4, a5, a6, a7, a8⟩
    · exact Or.inr (Or.inl ⟨t + 1, Nat.succ_lt_succ b1, b2, b3, b4, b5, b6, b7, b8, b9⟩)
    · exact Or.inr (Or.inr ⟨t + 1, Nat.succ_lt_succ c1, c2, c3, c4, c5⟩)

theorem stmtLoop_spec (sm : List String) (rest : List Text) (w : World) (r : Revision)
    (hp : findRev r.version w.revs = some r) (hlen : r.applied + rest.length ≤ sm.length) :
    LoopPost sm rest w r (stmtLoop sm rest w r) :=
  stmtLoop_post sm rest w r (fun _ => hp) ⟨r, hp, rfl, rfl, rfl⟩ hlen

theorem total_eta (r : Revision) (n : Nat) (h : r.total = n) : { r with total := n } = r := by
  cases r; simp at h; simp [h]

/-- one `Execute` of `m` with `a` statements recorded, under any faults: `t` more get recorded, `e ≤ 1` is executed
without being recorded (a revision write failed), the journal grows by those `t + e` statements. -/
structure FilePost (H : Text → String) (m : MFile) (a : Nat) (w : World) (o : World × Res) : Prop where
  other : ∀ v, v ≠ m.version → findRev v o.1.revs = findRev v w.revs
  faults : o.1.faults = w.faults
  shape :
    (o.2 = .ok ∧ o.1.journal = w.journal ++ m.stmts.drop a ∧ o.1.wfails = w.wfails ∧ Complete o.1.revs m) ∨
    (o.2 ≠ .ok ∧ o.2 ≠ .panic ∧ (∀ i b, o.2 ≠ .historyChanged i b) ∧ w.faults ≠ [] ∧
      ∃ t e, e ≤ 1 ∧ a + t + e ≤ m.stmts.length ∧
        o.1.journal = w.journal ++ (m.stmts.drop a).take (t + e) ∧ w.wfails + e ≤ o.1.wfails ∧
        ((Recorded H o.1.revs m (a + t) ∧ (a + t < m.stmts.length ∨ findRev m.version o.1.revs = none)) ∨
         (a + t = m.stmts.length ∧ e = 0 ∧ Complete o.1.revs m)))

theorem loadRev_spec (H : Text → String) (w : World) (m : MFile) (a : Nat)
    (hrec : Recorded H w.revs m a) :
    (loadRev w m).applied = a ∧ (loadRev w m).total = m.stmts.length ∧
    (loadRev w m).partialHashes = (sums H m.stmts).take a ∧
    (findRev m.version w.revs = none → (loadRev w m).hash = m.hash) := by
  rcases hrec with ⟨hn, ha0⟩ | ⟨r, hf, h1, h2, h3⟩
  · rw [loadRev_none hn]; simp [ha0]
  · rw [loadRev_some hf]; exact ⟨h1, h2, h3, by rw [hf]; nofun⟩

/-- a write of `r` over a row `p` of its version: failed or not, the row found afterwards satisfies what both do. -/
theorem writeRevision_over {P : Revision → Prop} {w w3 : World} {r p : Revision} {b : Bool}
    (hW : writeRevision w r = (w3, b)) (hp : findRev r.version w.revs = some p) (h1 : P p) (h2 : P r) :
    w3.journal = w.journal ∧ w.wfails ≤ w3.wfails ∧ (∃ q, findRev r.version w3.revs = some q ∧ P q) ∧
    (b = false → w3.wfails = w.wfails) ∧ (b = true → w.faults ≠ []) := by
  refine ⟨(writeRevision_frame hW).2.2, ?_⟩
  cases b with
  | true =>
    obtain ⟨hr, hwf, hne⟩ := writeRevision_fail hW
    exact ⟨hwf ▸ Nat.le_succ _, ⟨p, hr ▸ hp, h1⟩, nofun, fun _ => hne⟩
  | false =>
    obtain ⟨hr, hwf⟩ := writeRevision_ok hW
    exact ⟨Nat.le_of_eq hwf.symm, ⟨r, by rw [hr, findRev_upsert, if_pos rfl], h2⟩, fun _ => hwf, nofun⟩

theorem execute_spec (H : Text → String) (w : World) (m : MFile) (a : Nat)
    (hrec : Recorded H w.revs m a) (hal : a ≤ m.stmts.length)
    (hst : a < m.stmts.length ∨ findRev m.version w.revs = none) :
    FilePost H m a w (execute true H w m) := by
  obtain ⟨hra, hrt, hrp, hrh⟩ := loadRev_spec H w m a hrec
  have hrv := loadRev_version w m
  refine ⟨fun v hv => execute_other true H w m hv, execute_faults true H w m, ?_⟩
  unfold execute
  generalize loadRev w m = r at hra hrt hrp hrv hrh
  rcases hW : writeRevision w r with ⟨w1, _ | _⟩
  · obtain ⟨_, hf1, hj1⟩ := writeRevision_frame hW
    obtain ⟨hr1, hwf1⟩ := writeRevision_ok hW
    have hp1 : findRev m.version w1.revs = some r := by rw [hr1, findRev_upsert, if_pos hrv]
    have hle : r.applied ≤ m.stmts.length := hra ▸ hal
    rw [executeFrom_ok hW, afterStart_recorded hle (by rw [hrp, hra]), runStmts_eq hle]
    -- `r'`: in memory, with the file's current length and hash; `r`: persisted, equal to it when the file is fresh
    generalize hr' : ({ r with total := m.stmts.length, hash := m.hash } : Revision) = r'
    have hra' : r'.applied = a := by rw [← hr']; exact hra
    have hrt' : r'.total = m.stmts.length := by rw [← hr']
    have hrp' : r'.partialHashes = (sums H m.stmts).take a := by rw [← hr']; exact hrp
    have hrv' : r'.version = m.version := by rw [← hr']; exact hrv
    have hnil : m.stmts.drop a = [] → findRev r'.version w1.revs = some r' := by
      intro hd
      have hge : m.stmts.length ≤ a := by simpa using hd
      have heq : r' = r := by
        have h1 := hrh (hst.resolve_left (Nat.not_lt.mpr hge))
        rw [← hr', ← hrt, ← h1]
      rw [hrv', heq]; exact hp1
    rw [hra]
    have post := stmtLoop_post (sums H m.stmts) (m.stmts.drop a) w1 r' hnil
      ⟨r, by rw [hrv']; exact hp1, by rw [hra, hra'], by rw [hrt, hrt'], by rw [hrp, hrp']⟩
      (by rw [hra', List.length_drop, sums_length, Nat.add_sub_of_le hal]; exact Nat.le_refl _)
    have hfault : (stmtLoop (sums H m.stmts) (m.stmts.drop a) w1 r').2.2 ≠ .ok → w1.faults ≠ [] :=
      fun h hf => h (stmtLoop_nofault _ _ w1 r' hf).1
    rcases hL : stmtLoop (sums H m.stmts) (m.stmts.drop a) w1 r' with ⟨w2, r2, res2⟩
    rw [hL] at post hfault
    have hf2 : w2.faults = w.faults := post.faults.trans hf1
    have hsh := post.shape
    -- `take a ++ (drop a).take t = take (a + t)`; `t < length - a` as `a + t < length`
    simp only [hra', hrt', hrp', hrv', List.length_drop, ← List.take_add, hj1, hwf1, Nat.add_sub_of_le hal,
      Nat.lt_sub_iff_add_lt'] at hsh hfault
    rcases hsh with ⟨rfl, hj2, hwf2, hrow, happ, _, htot, hver⟩ |
        ⟨t, ht, rfl, hj2, hwf2, happ, hver, htot, hph, p, hrow, papp, ptot, pph⟩ |
        ⟨t, ht, rfl, hj2, hwf2, p, hrow, papp, ptot, pph⟩
    · -- all statements done: the final write
      have hr2 : r2.applied = m.stmts.length ∧ r2.total = m.stmts.length := ⟨happ, htot⟩
      rcases hW3 : writeRevision w2 { r2 with partialHashes := [] } with ⟨w3, b⟩
      obtain ⟨hj3, hwf3, hc, hwok, hne⟩ := writeRevision_over (P := fun q => q.applied = m.stmts.length ∧
        q.total = m.stmts.length) hW3 (p := r2) (by simpa [hver] using hrow) hr2 hr2
      simp only [hver] at hc
      dsimp only
      rw [deferred_ok hW3]
      cases b with
      | true => exact Or.inr ⟨by simp, by simp, by simp, hf2 ▸ hne rfl, m.stmts.length - a, 0, Nat.zero_le 1,
          Nat.le_of_eq (Nat.add_sub_of_le hal), by simp [hj3, hj2, List.take_of_length_le],
          hwf2 ▸ hwf3, Or.inr ⟨Nat.add_sub_of_le hal, rfl, hc⟩⟩
      | false => exact Or.inl ⟨rfl, by simp only [hj3, hj2], by simp only [hwok rfl, hwf2], hc⟩
    · -- statement `t` failed: the deferred write over `p`
      rcases hW3 : writeRevision w2 r2 with ⟨w3, b⟩
      obtain ⟨hj3, hwf3, hc, _, _⟩ := writeRevision_over (P := fun q => q.applied = a + t ∧
        q.total = m.stmts.length ∧ q.partialHashes = (sums H m.stmts).take (a + t)) hW3 (p := p)
        (by simpa [hver] using hrow) ⟨papp, ptot, pph⟩ ⟨happ, htot, hph⟩
      simp only [hver] at hc
      dsimp only
      rw [deferred_stmt hW3]
      exact Or.inr ⟨by simp, by simp, by simp, hf1 ▸ hfault (by simp),
        t, 0, Nat.zero_le 1, Nat.le_of_lt ht, by simp only [hj3, hj2, Nat.add_zero], hwf2 ▸ hwf3,
        Or.inl ⟨Or.inr hc, Or.inl ht⟩⟩
    · -- the write after statement `t` failed
      have hne : w.faults ≠ [] := hf1 ▸ hfault (by simp)
      dsimp only [deferred]
      exact Or.inr ⟨by simp, by simp, by simp, hne, t, 1, Nat.le_refl 1, ht, hj2,
        Nat.le_of_eq hwf2.symm, Or.inl ⟨Or.inr ⟨p, hrow, papp, ptot, pph⟩, Or.inl ht⟩⟩
  · -- the "mark as started" write failed
    obtain ⟨_, hf1, hj1⟩ := writeRevision_frame hW
    obtain ⟨hr1, hwf1, hne⟩ := writeRevision_fail hW
    rw [executeFrom_fail hW]
    exact Or.inr ⟨by simp, by simp, by simp, hne, 0, 0, Nat.zero_le 1, hal,
      by simp [hj1], by simp [hwf1], Or.inl ⟨by simpa [hr1] using hrec, by simpa [hr1] using hst⟩⟩

end Atlas.Exec

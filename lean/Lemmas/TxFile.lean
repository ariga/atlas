/-
One migration file in the transaction model (C10, C13): the operations of `Executor.Execute` (`fileOps`) hold no
transaction control, and what they do to a database. Two databases occur: `db`, whose revision table the command
read when it started (only `startRev` looks at it; `db.revs.length ≤ fi` says that file `fi` had no row then), and
`D`, the database the operations run against. `fileOps` never reads the directive of the file.
-/
import Lemmas.TxOps

namespace Atlas.Tx

theorem fileOps_nodir (db : Db) (fi : Nat) (f : TFile) :
    fileOps db fi f = fileOps db fi { ok := f.ok, directive := none } := rfl

theorem stmtOps_plain (fi total : Nat) (i : Nat) (l : List Bool) :
    ∀ op ∈ (stmtOps fi total i l).1, op.plain = true := by
  induction l generalizing i with
  | nil => intro op hop; cases hop
  | cons b rest ih =>
    intro op hop
    cases b
    · simp only [stmtOps, List.mem_cons, List.not_mem_nil, or_false] at hop
      rcases hop with rfl | rfl <;> rfl
    · simp only [stmtOps, List.mem_cons] at hop
      rcases hop with rfl | rfl | h
      · rfl
      · rfl
      · exact ih (i + 1) op h

theorem fileOps_plain (db : Db) (fi : Nat) (f : TFile) :
    ∀ op ∈ (fileOps db fi f).1, op.plain = true := by
  intro op hop
  simp only [fileOps, List.mem_cons, List.mem_append] at hop
  rcases hop with (rfl | h) | h
  · rfl
  · exact stmtOps_plain _ _ _ _ op h
  · split at h
    · cases List.mem_singleton.mp h; rfl
    · cases h

/-! ### the statement loop in closed form -/

/-- closed form of the statement loop when every statement succeeds. -/
def okOps (fi total : Nat) : Nat → Nat → List Op
  | _, 0 => []
  | i, n + 1 => Op.stmt fi i :: Op.rev fi ⟨i + 1, total, false⟩ :: okOps fi total (i + 1) n

theorem stmtOps_allTrue (fi total : Nat) {l : List Bool} (h : ∀ b ∈ l, b = true) (i : Nat) :
    stmtOps fi total i l = (okOps fi total i l.length, true) := by
  induction l generalizing i with
  | nil => rfl
  | cons b bs ih =>
    have hb : b = true := h b (List.mem_cons_self ..)
    subst hb
    simp only [stmtOps, List.length_cons, okOps]
    rw [ih (fun x hx => h x (List.mem_cons_of_mem _ hx)) (i + 1)]

theorem stmtOps_fail (fi total : Nat) {l : List Bool} {j : Nat} (hbad : l[j]? = some false)
    (hgood : ∀ x, x < j → l[x]? = some true) (i : Nat) :
    stmtOps fi total i l = (okOps fi total i j ++ [Op.fail fi (i + j), Op.rev fi ⟨i + j, total, true⟩], false) := by
  induction l generalizing i j with
  | nil => cases hbad
  | cons b bs ih =>
    cases j with
    | zero => cases Option.some.inj hbad; rfl
    | succ j =>
      cases Option.some.inj (hgood 0 (Nat.succ_pos j))
      simp only [stmtOps, okOps, ih hbad (fun x hx => hgood (x + 1) (Nat.succ_lt_succ hx)) (i + 1)]
      rw [Nat.add_assoc, Nat.add_comm 1 j]
      rfl

theorem setRev_fresh (J : List (Nat × Nat)) (pre : List Rev) (r : Rev) :
    ({ journal := J, revs := pre } : Db).setRev pre.length r = { journal := J, revs := pre ++ [r] } := by
  simp [Db.setRev]

theorem setRev_last (J : List (Nat × Nat)) (pre : List Rev) (x r : Rev) :
    ({ journal := J, revs := pre ++ [x] } : Db).setRev pre.length r = { journal := J, revs := pre ++ [r] } := by
  simp [Db.setRev]

/-- the last row is whatever the loop left; every caller overwrites it next. -/
theorem okOps_effect (total : Nat) (pre : List Rev) : ∀ (n i : Nat) (J : List (Nat × Nat)) (r : Rev),
    ∃ r', (okOps pre.length total i n).foldl durApply { journal := J, revs := pre ++ [r] } =
      { journal := J ++ (List.range' i n).map (fun x => (pre.length, x)), revs := pre ++ [r'] } := by
  intro n
  induction n with
  | zero => intro i J r; exact ⟨r, by simp [okOps]⟩
  | succ n ih =>
    intro i J r
    obtain ⟨r', he⟩ := ih (i + 1) (J ++ [(pre.length, i)]) ⟨i + 1, total, false⟩
    refine ⟨r', ?_⟩
    simp only [okOps, List.foldl_cons, durApply, Db.addStmt]
    rw [setRev_last, he]
    simp [List.range'_succ]

/-- after any prefix of the loop `i0 + c` statements are executed and `a` recorded: at most the statement in
flight is unrecorded. -/
theorem okOps_prefix (total : Nat) (pre : List Rev) : ∀ (n i0 : Nat) (J : List (Nat × Nat)) (k : Nat),
    ∃ c a, ((okOps pre.length total i0 n).take k).foldl durApply { journal := J, revs := pre ++ [⟨i0, total, false⟩] } =
        { journal := J ++ (List.range' i0 c).map (fun x => (pre.length, x)), revs := pre ++ [⟨a, total, false⟩] } ∧
      a ≤ i0 + c ∧ i0 + c ≤ a + 1 ∧ c ≤ n := by
  intro n
  induction n with
  | zero =>
    intro i0 J k
    exact ⟨0, i0, by simp [okOps], Nat.le_refl _, Nat.le_succ _, Nat.le_refl _⟩
  | succ n ih =>
    intro i0 J k
    match k with
    | 0 => exact ⟨0, i0, by simp, Nat.le_refl _, Nat.le_succ _, Nat.zero_le _⟩
    | 1 =>  -- between the statement and its upsert: the one unrecorded statement
      refine ⟨1, i0, ?_, Nat.le_succ _, Nat.le_refl _, Nat.succ_le_succ (Nat.zero_le _)⟩
      simp [okOps, durApply, Db.addStmt]
    | k + 2 =>
      obtain ⟨c, a, he, h1, h2, h3⟩ := ih (i0 + 1) (J ++ [(pre.length, i0)]) k
      refine ⟨c + 1, a, ?_, by omega, by omega, by omega⟩
      simp only [okOps, List.take_succ_cons, List.foldl_cons, durApply, Db.addStmt]
      rw [setRev_last, he]
      simp [List.range'_succ]

/-! ### what a file leaves in the database -/

/-- the database after one more completely applied file (its index is the number of revision rows). -/
def applyFile (d : Db) (f : TFile) : Db :=
  { journal := d.journal ++ (List.range f.ok.length).map (fun x => (d.revs.length, x)),
    revs := d.revs ++ [⟨f.ok.length, f.ok.length, false⟩] }

/-- file partially applied on top of `d`: `i` statements executed, `a` of them recorded. -/
def partFile (d : Db) (i a m : Nat) : Db :=
  { journal := d.journal ++ (List.range i).map (fun x => (d.revs.length, x)), revs := d.revs ++ [⟨a, m, false⟩] }

/-- the database after the statements before the failing one, recorded with the error. -/
def failedFile (d : Db) (j m : Nat) : Db :=
  { journal := d.journal ++ (List.range j).map (fun x => (d.revs.length, x)), revs := d.revs ++ [⟨j, m, true⟩] }

theorem partFile_complete (d : Db) (f : TFile) : partFile d f.ok.length f.ok.length f.ok.length = applyFile d f := rfl

theorem fileOps_allTrue (db : Db) (fi : Nat) {f : TFile} (hf : ∀ b ∈ f.ok, b = true) :
    fileOps db fi f =
      (Op.rev fi (startRev db fi f) ::
         okOps fi f.ok.length (startRev db fi f).applied (f.ok.length - (startRev db fi f).applied) ++
         [Op.rev fi ⟨f.ok.length, f.ok.length, false⟩], true) := by
  simp only [fileOps]
  rw [stmtOps_allTrue _ _ (fun b hb => hf b (List.mem_of_mem_drop hb))]
  simp

theorem startRev_fresh {db : Db} {fi : Nat} (f : TFile) (hn : db.revs.length ≤ fi) :
    startRev db fi f = ⟨0, f.ok.length, false⟩ := by
  simp [startRev, List.getElem?_eq_none hn]

theorem fileOps_fresh_run {db D : Db} {fi : Nat} {f : TFile} (hf : ∀ b ∈ f.ok, b = true) (hfi : D.revs.length = fi)
    (hn : db.revs.length ≤ fi) :
    (fileOps db fi f).2 = true ∧ (fileOps db fi f).1.foldl durApply D = applyFile D f := by
  obtain ⟨J, pre⟩ := D
  subst hfi
  rw [fileOps_allTrue db _ hf, startRev_fresh f hn]
  refine ⟨rfl, ?_⟩
  simp only [List.cons_append, List.foldl_cons, List.foldl_append, List.foldl_nil, durApply, Nat.sub_zero]
  obtain ⟨r', he⟩ := okOps_effect f.ok.length pre f.ok.length 0 J ⟨0, f.ok.length, false⟩
  rw [setRev_fresh, he, setRev_last]
  simp [applyFile, List.range_eq_range']

/-- any prefix of the operations of a fresh file leaves nothing, or a recorded prefix of the file with at most one
executed statement not yet recorded. -/
theorem fileOps_fresh_prefix {db D : Db} {fi : Nat} {f : TFile} (hf : ∀ b ∈ f.ok, b = true) (hfi : D.revs.length = fi)
    (hn : db.revs.length ≤ fi) (k : Nat) :
    ((fileOps db fi f).1.take k).foldl durApply D = D ∨
    ∃ i a, ((fileOps db fi f).1.take k).foldl durApply D = partFile D i a f.ok.length ∧
      a ≤ i ∧ i ≤ a + 1 ∧ i ≤ f.ok.length := by
  by_cases hk : (fileOps db fi f).1.length ≤ k
  · rw [List.take_of_length_le hk, (fileOps_fresh_run hf hfi hn).2, ← partFile_complete]
    exact Or.inr ⟨_, _, rfl, Nat.le_refl _, Nat.le_succ _, Nat.le_refl _⟩
  · obtain ⟨J, pre⟩ := D
    subst hfi
    rw [fileOps_allTrue db _ hf, startRev_fresh f hn] at hk ⊢
    match k with
    | 0 => left; rfl
    | k + 1 =>
      right
      simp only [List.cons_append, List.take_succ_cons, List.foldl_cons, durApply, Nat.sub_zero] at hk ⊢
      rw [setRev_fresh, List.take_append_of_le_length (by simp at hk ⊢; omega)]
      obtain ⟨c, a, he, h1, h2, h3⟩ := okOps_prefix f.ok.length pre f.ok.length 0 J k
      refine ⟨c, a, ?_, by omega, by omega, by omega⟩
      rw [he]
      simp [partFile, List.range_eq_range']

theorem fileOps_fresh_fail_flag {db : Db} {fi : Nat} {f : TFile} {j : Nat} (hbad : f.ok[j]? = some false)
    (hgood : ∀ i, i < j → f.ok[i]? = some true) (hn : db.revs.length ≤ fi) : (fileOps db fi f).2 = false := by
  simp only [fileOps, startRev_fresh f hn, List.drop_zero]
  rw [stmtOps_fail _ _ hbad hgood 0]

theorem fileOps_fresh_fail_effect {db D : Db} {fi : Nat} {f : TFile} {j : Nat} (hbad : f.ok[j]? = some false)
    (hgood : ∀ i, i < j → f.ok[i]? = some true) (hfi : D.revs.length = fi) (hn : db.revs.length ≤ fi) :
    (fileOps db fi f).1.foldl durApply D = failedFile D j f.ok.length := by
  obtain ⟨J, pre⟩ := D
  subst hfi
  simp only [fileOps, startRev_fresh f hn, List.drop_zero]
  rw [stmtOps_fail _ _ hbad hgood 0]
  simp only [Bool.false_eq_true, if_false, List.append_nil, List.foldl_cons, List.foldl_append, List.foldl_nil, durApply]
  obtain ⟨r', he⟩ := okOps_effect f.ok.length pre j 0 J ⟨0, f.ok.length, false⟩
  rw [setRev_fresh, he, setRev_last]
  simp [failedFile, List.range_eq_range']

/-- a succeeding file whose row `⟨a, n, e⟩` is stored: `Execute` resumes at statement `a`. The last row `x` of the
database it runs against may hold anything: the initial upsert overwrites it. -/
theorem fileOps_resume_run {db : Db} (J : List (Nat × Nat)) {pre : List Rev} (x : Rev) {f : TFile}
    (hf : ∀ b ∈ f.ok, b = true) {a : Nat} {e : Bool} (hr : db.revs[pre.length]? = some ⟨a, f.ok.length, e⟩) :
    (fileOps db pre.length f).2 = true ∧
    (fileOps db pre.length f).1.foldl durApply { journal := J, revs := pre ++ [x] } =
      { journal := J ++ (List.range' a (f.ok.length - a)).map (fun i => (pre.length, i)),
        revs := pre ++ [⟨f.ok.length, f.ok.length, false⟩] } := by
  have hs : startRev db pre.length f = ⟨a, f.ok.length, e⟩ := by simp [startRev, hr]
  rw [fileOps_allTrue db _ hf, hs]
  refine ⟨rfl, ?_⟩
  simp only [List.cons_append, List.foldl_cons, List.foldl_append, List.foldl_nil, durApply]
  obtain ⟨r', he⟩ := okOps_effect f.ok.length pre (f.ok.length - a) a J ⟨a, f.ok.length, e⟩
  rw [setRev_last, he, setRev_last]

end Atlas.Tx

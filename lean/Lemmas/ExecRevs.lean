/-
The revision table in every state the executor reaches without `--baseline`: sorted by version, every row of type "executed" (only
`atlas migrate set` writes the resolved bit) and of a file of the directory; used by `Props.C11.linear_of_dinv`.
-/
import Lemmas.Exec

namespace Atlas.Exec

/-- a row the executor may write for `dir`. -/
def Good (dir : List MFile) (r : Revision) : Prop := r.typ = 2 ∧ ∃ m ∈ dir, m.version = r.version

/-- the revision table: sorted by version, good rows only. -/
structure RInv (dir : List MFile) (revs : List Revision) : Prop where
  sorted : (revs.map (·.version)).Pairwise (· < ·)
  good : ∀ r ∈ revs, Good dir r

theorem good_not_resolved {dir : List MFile} {r : Revision} (h : Good dir r) : r.resolved = false := by
  unfold Revision.resolved; rw [h.1]; rfl

theorem rinv_nil (dir : List MFile) : RInv dir [] := ⟨by simp, by simp⟩

theorem rinv_upsert {dir : List MFile} {revs : List Revision} {r : Revision}
    (h : RInv dir revs) (hg : Good dir r) : RInv dir (upsert r revs) :=
  ⟨upsert_sorted r revs h.sorted, fun x hx => (mem_upsert hx).elim (fun e => e ▸ hg) (h.good x)⟩

theorem good_loadRev {dir : List MFile} {w : World} {m : MFile} (hw : RInv dir w.revs) (hm : m ∈ dir) :
    Good dir (loadRev w m) := by
  cases h : findRev m.version w.revs with
  | none => rw [loadRev_none h]; exact ⟨rfl, m, hm, rfl⟩
  | some r => rw [loadRev_some h]; exact hw.good r (findRev_mem h).1

theorem Kept.rinv {dir : List MFile} {r : Revision} (hg : Good dir r) : Kept (fun w => RInv dir w.revs) r :=
  .of_revs fun _ _ hx h => rinv_upsert h
    ⟨hx.2.trans hg.1, hg.2.imp fun _ hm => ⟨hm.1, hm.2.trans hx.1.symm⟩⟩

theorem execFiles_rinv {dir : List MFile} (fixed : Bool) (H : Text → String) :
    ∀ (files : List MFile) (w : World), RInv dir w.revs → (∀ m ∈ files, m ∈ dir) →
      RInv dir (execFiles fixed H files w).1.revs :=
  fun files w hw hsub => execFiles_kept fixed H files w
    (fun m hm _ hw' => Kept.rinv (good_loadRev hw' (hsub m hm))) hw

end Atlas.Exec

/- Lists whose keys are distinct: the key is injective on members (`key_inj`), the keys of a middle part occur nowhere
in the frame (`key_not_mem_frame`, `key_ne_mid`), looking an element up by its key, `l.find? (key · = k)`; and
`pairwise_map_append`, for the version-sorted lists of Pending / SetVersion. -/

namespace Atlas

variable {α κ : Type} [DecidableEq κ]

/-- an optional key: elements without one are not constrained; `key_inj` below is the case of a total key. -/
theorem key_inj_filterMap {β : Type} (f : α → Option β) {l : List α} (hn : (l.filterMap f).Nodup) :
    ∀ x ∈ l, ∀ y ∈ l, ∀ b, f x = some b → f y = some b → x = y := by
  -- `R x y` below: `rfl` on the diagonal, vacuous off it (two positions of `l` cannot both produce `b`)
  have hp := List.pairwise_filterMap.mp hn
  intro x hx y hy
  exact List.Pairwise.forall_of_forall_of_flip (R := fun x y => ∀ b, f x = some b → f y = some b → x = y)
    (fun _ _ _ _ _ => rfl) (hp.imp fun h b hx hy => absurd rfl (h b hx b hy))
    (hp.imp fun h b hx hy => absurd rfl (h b hy b hx)) hx hy

theorem key_inj {β : Type} (key : α → β) {l : List α} (h : (l.map key).Nodup) :
    ∀ x ∈ l, ∀ y ∈ l, key x = key y → x = y := fun x hx y hy e =>
  key_inj_filterMap (fun a => some (key a)) (by rwa [List.filterMap_eq_map']) x hx y hy _ (congrArg some e) rfl

theorem key_not_mem_frame {β : Type} (key : α → β) {l₁ m l₂ : List α} (h : ((l₁ ++ (m ++ l₂)).map key).Nodup) {a : α}
    (ha : a ∈ m) : key a ∉ l₁.map key ∧ key a ∉ l₂.map key := by
  simp only [List.map_append, List.nodup_append] at h
  obtain ⟨-, ⟨-, -, hm2⟩, h1m⟩ := h   -- `m` against `l₂`, `l₁` against `m ++ l₂`
  exact ⟨fun h1 => h1m _ h1 _ (List.mem_append_left _ (List.mem_map_of_mem ha)) rfl,
    fun h2 => hm2 _ (List.mem_map_of_mem ha) _ h2 rfl⟩

theorem key_ne_mid {β : Type} (key : α → β) {l₁ l₂ : List α} {m : α} (h : ((l₁ ++ m :: l₂).map key).Nodup) :
    ∀ a ∈ l₁ ++ l₂, key a ≠ key m := fun _ ha he =>
  have ⟨h1, h2⟩ := key_not_mem_frame key (m := [m]) h (List.mem_cons_self ..)
  (List.mem_append.mp ha).elim (fun x => h1 (he ▸ List.mem_map_of_mem x)) (fun x => h2 (he ▸ List.mem_map_of_mem x))

/-- what a successful look-up gives, distinct keys or not. -/
theorem find_key_some (key : α → κ) {l : List α} {k : κ} {b : α} (h : l.find? (fun b => key b = k) = some b) :
    b ∈ l ∧ key b = k :=
  ⟨List.mem_of_find?_eq_some h, by simpa using List.find?_some h⟩

theorem find_key_eq_none (key : α → κ) {l : List α} {k : κ} :
    l.find? (fun b => key b = k) = none ↔ k ∉ l.map key := by
  simp [List.mem_map]

theorem find_key_self (key : α → κ) {l : List α} (hn : (l.map key).Nodup) {a : α} (ha : a ∈ l) :
    l.find? (fun b => key b = key a) = some a := by
  induction l with
  | nil => cases ha
  | cons x xs ih =>
    rw [List.map_cons, List.nodup_cons] at hn
    rcases List.mem_cons.mp ha with rfl | hmem
    · simp [List.find?]
    · have hne : key x ≠ key a := fun he => hn.1 (he ▸ List.mem_map_of_mem hmem)
      simp only [List.find?, hne, decide_false]
      exact ih hn.2 hmem

theorem find_key_eq_some (key : α → κ) {l : List α} (hn : (l.map key).Nodup) {k : κ} {b : α} :
    l.find? (fun b => key b = k) = some b ↔ b ∈ l ∧ key b = k :=
  ⟨find_key_some key,
   fun ⟨hb, hk⟩ => hk ▸ find_key_self key hn hb⟩

theorem any_key_mem (key : α → κ) {l : List α} {k : κ} : l.any (fun a => key a = k) = true ↔ k ∈ l.map key := by
  simp [List.any_eq_true, List.mem_map]

theorem pairwise_map_append {β : Type} {R : β → β → Prop} {f : α → β} {l1 l2 : List α} :
    ((l1 ++ l2).map f).Pairwise R ↔
      (l1.map f).Pairwise R ∧ (l2.map f).Pairwise R ∧ ∀ a ∈ l1, ∀ b ∈ l2, R (f a) (f b) := by
  simp only [List.pairwise_map, List.pairwise_append]

end Atlas

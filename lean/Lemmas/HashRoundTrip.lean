/-
`UnmarshalText ∘ MarshalText = id` for every list of well-formed entries (sql/migrate/dir.go:
HashFile.MarshalText / UnmarshalText): the name holds no line feed and survives `strings.TrimSpace` with the
separating blank appended; the hash text holds no LF, CR or colon (base64, as `NewHashFile` writes it).
`bufio.Scanner`'s 64 KiB token limit is not modelled (names that long exist only in MemDir).
-/
import Lemmas.Hash

namespace Atlas.Hash
open Atlas.Bytes

/-- a hash text as `base64.StdEncoding` writes it: no LF, no CR, no ':'. -/
def GoodHash (h : Bytes) : Prop := ∀ b ∈ h, b ≠ 0x0a ∧ b ≠ 0x0d ∧ b ≠ 0x3a

/-- an entry the text format carries (see the file header). -/
def WFEntry (e : Entry) : Prop :=
  (∀ b ∈ e.1, b ≠ 0x0a) ∧ trimSpace (e.1 ++ [0x20]) = e.1 ∧ GoodHash e.2

theorem splitLinesAux_line {l : Bytes} (rest cur : Bytes) (h : ∀ b ∈ l, b ≠ 0x0a) :
    splitLinesAux (l ++ 0x0a :: rest) cur = (cur.reverse ++ l) :: splitLinesAux rest [] := by
  induction l generalizing cur with
  | nil => rw [List.nil_append, splitLinesAux, if_pos (beq_self_eq_true _), List.append_nil]
  | cons b t ih =>
    have ⟨hb, ht⟩ := List.forall_mem_cons.mp h
    rw [List.cons_append, splitLinesAux, if_neg (by simpa using hb), ih _ ht, List.reverse_cons,
      List.append_assoc, List.singleton_append]

theorem dropCR_eq_self {l : Bytes} (h : l.getLast? ≠ some 0x0d) : dropCR l = l := by
  unfold dropCR
  split
  · next r heq =>
    refine absurd ?_ h
    rw [← List.reverse_reverse l, heq, List.reverse_cons, List.getLast?_append]
    rfl
  · rfl

theorem scanLines_line {l : Bytes} (rest : Bytes) (hlf : ∀ b ∈ l, b ≠ 0x0a) (hcr : l.getLast? ≠ some 0x0d) :
    scanLines (l ++ [0x0a] ++ rest) = l :: scanLines rest := by
  unfold scanLines
  rw [List.append_assoc, List.singleton_append, splitLinesAux_line _ _ hlf, List.map_cons,
    List.reverse_nil, List.nil_append, dropCR_eq_self hcr]

theorem splitLast_none_of_no_colon (h : Bytes) (hc : ∀ b ∈ h, b ≠ 0x3a) : splitLast h1 h = none := by
  induction h with
  | nil => rfl
  | cons b s ih =>
    have hp : h1.isPrefixOf (b :: s) = false := Bool.eq_false_iff.mpr fun hp => by
      obtain ⟨t, ht⟩ := List.isPrefixOf_iff_prefix.mp hp
      exact hc 0x3a (ht ▸ by simp [h1]) rfl
    rw [splitLast, ih fun x hx => hc x (List.mem_cons_of_mem _ hx)]
    simp only [hp]
    rfl

theorem splitLast_append {pat s x y : Bytes} (a : Bytes) (h : splitLast pat s = some (x, y)) :
    splitLast pat (a ++ s) = some (a ++ x, y) := by
  induction a with
  | nil => exact h
  | cons b t ih => rw [List.cons_append, splitLast, ih]; rfl

theorem splitLast_h1 (a h : Bytes) (hc : ∀ b ∈ h, b ≠ 0x3a) : splitLast h1 (a ++ h1 ++ h) = some (a, h) := by
  -- the occurrence in front of `h` is the last one: `h` holds no ':' (`hn`, with `h1` unfolded as `simp`
  -- unfolds it), and the tails "1:…" and ":…" do not start with 'h'
  have hn : splitLast [0x68, 0x31, 0x3a] h = none := splitLast_none_of_no_colon h hc
  have h0 : splitLast h1 (h1 ++ h) = some ([], h) := by simp [h1, splitLast, hn, List.isPrefixOf]
  rw [List.append_assoc, splitLast_append a h0, List.append_nil]

/-! ### the lines of the file: `a ++ "h1:" ++ h` (header: `a = []`; entry: `a = name ++ " "`) -/

theorem line_no_lf (a : Bytes) {h : Bytes} (ha : ∀ b ∈ a, b ≠ 0x0a) (hh : GoodHash h) : ∀ b ∈ a ++ h1 ++ h, b ≠ 0x0a :=
  List.forall_mem_append.mpr ⟨List.forall_mem_append.mpr ⟨ha, by decide⟩, fun b hb => (hh b hb).1⟩

/-- the line ends in a byte of `h`, or else in the ':' of "h1:": never in a carriage return. -/
theorem line_last_ne_cr (a : Bytes) {h : Bytes} (hh : GoodHash h) : (a ++ h1 ++ h).getLast? ≠ some 0x0d := by
  intro hl
  rw [List.getLast?_append] at hl
  cases hx : h.getLast? with
  | some x => exact (hh x (List.mem_of_getLast? hx)).2.1 (by simpa [hx] using hl)
  | none => simp [hx, h1] at hl

theorem scanLines_entries {es : List Entry} (h : ∀ e ∈ es, WFEntry e) :
    scanLines (es.flatMap entryLine) = es.map (fun e => e.1 ++ [0x20] ++ h1 ++ e.2) := by
  induction es with
  | nil => rfl
  | cons e t ih =>
    have ⟨he, ht⟩ := List.forall_mem_cons.mp h
    have ha : ∀ b ∈ e.1 ++ [0x20], b ≠ 0x0a := List.forall_mem_append.mpr ⟨he.1, by decide⟩
    rw [List.flatMap_cons, entryLine, scanLines_line _ (line_no_lf _ ha he.2.2) (line_last_ne_cr _ he.2.2), ih ht,
      List.map_cons]

theorem parseLines_entries {es : List Entry} (h : ∀ e ∈ es, WFEntry e) :
    parseLines (es.map (fun e => e.1 ++ [0x20] ++ h1 ++ e.2)) = .ok es := by
  induction es with
  | nil => rfl
  | cons e t ih =>
    have ⟨he, ht⟩ := List.forall_mem_cons.mp h
    rw [List.map_cons, parseLines, splitLast_h1 (e.1 ++ [0x20]) e.2 (fun b hb => (he.2.2 b hb).2.2), ih ht]
    simp only [he.2.1]

/-- header `h1:s` over well-formed entry lines: the entries read back iff `s` is their sum. -/
theorem unmarshal_header (H : Bytes → Bytes) (s : Bytes) (es : List Entry) (hsum : GoodHash s)
    (hwf : ∀ e ∈ es, WFEntry e) :
    unmarshal H (h1 ++ s ++ [0x0a] ++ es.flatMap entryLine) =
      if s != sumOf H es then .error .mismatch else .ok es := by
  have hscan : scanLines (h1 ++ s ++ [0x0a] ++ es.flatMap entryLine) = (h1 ++ s) :: scanLines (es.flatMap entryLine) :=
    scanLines_line _ (line_no_lf [] (fun _ hb => nomatch hb) hsum) (line_last_ne_cr [] hsum)
  have hstrip : stripH1 (h1 ++ s) = s := rfl
  simp only [unmarshal, hscan, List.headD_cons, List.tail_cons, scanLines_entries hwf, parseLines_entries hwf, hstrip]

/-- **unmarshal_marshal**: what was written reads back, provided the header sum is a good hash text too. -/
theorem unmarshal_marshal (H : Bytes → Bytes) (es : List Entry) (hsum : GoodHash (sumOf H es))
    (hwf : ∀ e ∈ es, WFEntry e) : unmarshal H (marshal H es) = .ok es := by
  rw [marshal, unmarshal_header H _ es hsum hwf, bne_self_eq_false]
  rfl

end Atlas.Hash

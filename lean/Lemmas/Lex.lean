/-
The scanner state invariant `Inv` (C08) and what every primitive of `Atlas.Lex` below the `Scan:` loop does
to it. `Le`: progress only, no invariant needed; `Moved`: same input, cursor forward, which gives `Le` and
preserves `Inv`; `Adv` (LexStep): `Le` and preservation of `LoopInv`. `next_X` speaks of `(next s).1` /
`.2`, `X_of_next` of `next s = (s1, r)`.
-/
import Atlas.Lex

namespace Atlas.Lex
open Atlas.Bytes

/-- offset of the scanner's current input in `src`. -/
def off (src : Bytes) (s : St) : Nat := src.length - s.input.length

/-- the scanner state invariant over the source `src`. -/
structure Inv (src : Bytes) (s : St) : Prop where
  len : s.input.length ≤ src.length
  suffix : src.drop (off src s) = s.input
  total : s.total = off src s + s.pos
  bound : s.pos ≤ s.input.length

/-- the `Scan:` loop invariant: `Inv`, and no leading white space (so the statement text has none). -/
structure LoopInv (src : Bytes) (s : St) : Prop where
  inv : Inv src s
  lead : spaceHead s.input = 0

/-- the statement `st` produced from a scanner over `src` that was at offset `lo` and is now at
offset `hi`: its text is found at its position, inside `[lo, hi)`. -/
structure StmtOK (src : Bytes) (lo hi : Nat) (st : Stmt) : Prop where
  lo_le : lo ≤ st.pos
  le_hi : st.pos + st.text.length ≤ hi
  found : (src.drop st.pos).take st.text.length = st.text

/-- bytes still in front of the cursor. -/
def rem (s : St) : Nat := s.input.length - s.pos

/-- `s'` is not behind `s` (`rem` is truncated: no invariant needed) and keeps a non-empty delimiter. -/
structure Le (s s' : St) : Prop where
  rem : rem s' ≤ rem s
  delim : s.delim ≠ [] → s'.delim ≠ []

theorem Le.refl (s : St) : Le s s := ⟨Nat.le_refl _, id⟩
theorem Le.trans {a b c : St} (h1 : Le a b) (h2 : Le b c) : Le a c :=
  ⟨Nat.le_trans h2.rem h1.rem, fun h => h2.delim (h1.delim h)⟩

theorem ite_between {c : Prop} [Decidable c] {a b lo hi : Nat} (ha : lo ≤ a ∧ a ≤ hi) (hb : lo ≤ b ∧ b ≤ hi) :
    lo ≤ (if c then a else b) ∧ (if c then a else b) ≤ hi := by
  split <;> assumption

theorem runeWidth_bounds (x : UInt8) (l : Bytes) :
    1 ≤ runeWidth (x :: l) ∧ runeWidth (x :: l) ≤ l.length + 1 := by
  rw [runeWidth.eq_def]; dsimp only
  -- `ite_between` never looks at the conditions, which nest further conditionals
  refine ite_between (by omega) (ite_between ?_ (ite_between ?_ (ite_between ?_ (by omega))))
  · split
    · exact ite_between (by simp) (by simp)
    · omega
  · split
    · exact ite_between (by simp) (by simp)
    · omega
  · split
    · exact ite_between (by simp) (by simp)
    · omega

theorem off_shift {src : Bytes} {s : St} (inv : Inv src s) (s' : St) {k : Nat} (hk : k ≤ s.input.length)
    (hi : s'.input = s.input.drop k) : off src s' = off src s + k := by
  unfold off
  rw [hi, List.length_drop]
  -- len(src) = (off + k) + (len(input) - k)
  exact Nat.sub_eq_of_eq_add (by rw [Nat.add_assoc, Nat.add_sub_of_le hk, Nat.sub_add_cancel inv.len])

/-- drop `k` bytes in front (`k = 0`: only the cursor moves) and keep `total - pos` in step. -/
theorem Inv.shift {src : Bytes} {s : St} (inv : Inv src s) (s' : St) (k : Nat) (hk : k ≤ s.input.length)
    (hi : s'.input = s.input.drop k) (ht : s'.total + s.pos = s.total + s'.pos + k)
    (hb : s'.pos ≤ s'.input.length) : Inv src s' := by
  have hoff := off_shift inv s' hk hi
  have hT := inv.total
  refine ⟨?_, ?_, by omega, hb⟩
  · rw [hi, List.length_drop]; exact Nat.le_trans (Nat.sub_le ..) inv.len
  · rw [hoff, ← List.drop_drop, inv.suffix, hi]

theorem off_le_of_length_le {src : Bytes} {s s' : St} (inv : Inv src s) (h : s'.input.length ≤ s.input.length) :
    off src s ≤ off src s' := by
  simp only [off]; have := inv.len; omega

/-- the cursor moved forward inside the same input; `bound` is conditional: no invariant is assumed. -/
structure Moved (s s' : St) : Prop where
  input : s'.input = s.input
  delim : s.delim ≠ [] → s'.delim ≠ []
  pos : s.pos ≤ s'.pos
  total : s'.total + s.pos = s.total + s'.pos
  bound : s.pos ≤ s.input.length → s'.pos ≤ s.input.length

theorem Moved.refl (s : St) : Moved s s := ⟨rfl, id, Nat.le_refl _, rfl, id⟩

theorem Moved.trans {a b c : St} (h1 : Moved a b) (h2 : Moved b c) : Moved a c :=
  ⟨h2.input.trans h1.input, fun h => h2.delim (h1.delim h), Nat.le_trans h1.pos h2.pos,
   by have := h1.total; have := h2.total; omega,
   fun h => h1.input ▸ h2.bound (h1.input ▸ h1.bound h)⟩

theorem Moved.le {s s' : St} (m : Moved s s') : Le s s' :=
  ⟨by simp only [rem, m.input]; exact Nat.sub_le_sub_left m.pos _, m.delim⟩

theorem Moved.inv {src : Bytes} {s s' : St} (m : Moved s s') (inv : Inv src s) : Inv src s' :=
  inv.shift s' 0 (Nat.zero_le _) m.input m.total (m.input ▸ m.bound inv.bound)

theorem Moved.off {s s' : St} (m : Moved s s') (src : Bytes) : off src s' = off src s := by
  simp only [Lex.off, m.input]

theorem next_nil {s : St} (h : s.input.drop s.pos = []) : next s = (s, .eos) := by
  unfold next; rw [h]

theorem next_cons {s : St} {x : UInt8} {rest : Bytes} (h : s.input.drop s.pos = x :: rest) :
    ∃ w, 1 ≤ w ∧ s.pos + w ≤ s.input.length ∧
      next s = ({ s with width := w, pos := s.pos + w, total := s.total + w }, if x < 0x80 then .ch x else .other) := by
  have hw := runeWidth_bounds x rest
  have h2 : rest.length + 1 = s.input.length - s.pos := by rw [← List.length_drop, h]; rfl
  exact ⟨runeWidth (x :: rest), hw.1, by omega, by unfold next; rw [h]⟩

theorem eos_of_next {s s1 : St} (h : next s = (s1, .eos)) : s1 = s ∧ s.input.length ≤ s.pos := by
  cases hd : s.input.drop s.pos with
  | nil => rw [next_nil hd] at h; cases h; exact ⟨rfl, by simpa using hd⟩
  | cons x rest =>
    obtain ⟨w, _, _, e⟩ := next_cons hd
    rw [e, Prod.mk.injEq] at h
    have := h.2
    split at this <;> cases this

theorem bounds_of_next {s s1 : St} {r : R} (h : next s = (s1, r)) (hr : r ≠ .eos) :
    1 ≤ s1.width ∧ s1.pos = s.pos + s1.width ∧ s1.pos ≤ s.input.length := by
  cases hd : s.input.drop s.pos with
  | nil => rw [next_nil hd] at h; cases h; exact absurd rfl hr
  | cons x rest =>
    obtain ⟨w, hw, hb, e⟩ := next_cons hd
    rw [e] at h; cases h
    exact ⟨hw, rfl, hb⟩

theorem moved_of_next {s s1 : St} {r : R} (h : next s = (s1, r)) : Moved s s1 := by
  cases hd : s.input.drop s.pos with
  | nil => rw [next_nil hd] at h; cases h; exact .refl s
  | cons x rest =>
    obtain ⟨w, _, hb, e⟩ := next_cons hd
    rw [e] at h; cases h
    exact ⟨rfl, id, Nat.le_add_right .., by simp only; omega, fun _ => hb⟩

theorem strict_of_next {s s1 : St} {r : R} (h : next s = (s1, r)) (hr : r ≠ .eos) : rem s1 + 1 ≤ rem s := by
  have := bounds_of_next h hr
  simp only [rem, (moved_of_next h).input]; omega

theorem next_eos {s : St} (h : (next s).2 = .eos) : (next s).1 = s ∧ s.input.length ≤ s.pos :=
  eos_of_next (Prod.ext rfl h)

theorem next_bounds {s : St} (h : (next s).2 ≠ .eos) :
    1 ≤ (next s).1.width ∧ (next s).1.pos = s.pos + (next s).1.width ∧ (next s).1.pos ≤ s.input.length :=
  bounds_of_next rfl h

theorem next_moved (s : St) : Moved s (next s).1 := moved_of_next rfl

theorem next_strict {s : St} (h : (next s).2 ≠ .eos) : rem (next s).1 + 1 ≤ rem s := strict_of_next rfl h

theorem addPos_moved (s : St) (k : Nat) (h : s.pos ≤ s.input.length → s.pos + k ≤ s.input.length) :
    Moved s (s.addPos k) :=
  ⟨rfl, id, Nat.le_add_right .., by simp only [St.addPos]; omega, h⟩

theorem reset_inv {src : Bytes} {s : St} (inv : Inv src s) (c : List Bytes) :
    Inv src { s with input := s.input.drop s.pos, pos := 0, comments := c } :=
  inv.shift _ s.pos inv.bound rfl rfl (Nat.zero_le _)

theorem reset_le (s : St) (c : List Bytes) : Le s { s with input := s.input.drop s.pos, pos := 0, comments := c } :=
  ⟨by simp [rem], id⟩

theorem emit_inv {src : Bytes} {s : St} (o : Opts) (inv : Inv src s) (t : Bytes) :
    Inv src (emit o s t).1 := reset_inv inv []

theorem emit_shape (o : Opts) (s : St) (t : Bytes) :
    (emit o s t).1.pos = 0 ∧ (emit o s t).1.input.length = rem s ∧ (emit o s t).1.delim = s.delim := by
  simp [emit, rem]

theorem trimLeft_suffix (n : Nat) (l : Bytes) : trimLeft n l <:+ l := by
  fun_induction trimLeft n l with
  | case1 | case2 => exact List.suffix_refl _
  | case3 _ _ _ ih => exact ih.trans (List.drop_suffix ..)

theorem skipSpaces_length_le (s : St) : (skipSpaces s).input.length ≤ s.input.length :=
  (trimLeft_suffix ..).length_le

theorem skipSpaces_inv {src : Bytes} {s : St} (inv : Inv src s) (hp : s.pos = 0) :
    Inv src (skipSpaces s) :=
  inv.shift _ (s.input.length - (skipSpaces s).input.length) (Nat.sub_le ..)
    (List.suffix_iff_eq_drop.mp (trimLeft_suffix ..)) (Nat.add_right_comm ..) (hp ▸ Nat.zero_le _)

theorem skipSpaces_le (s : St) : Le s (skipSpaces s) :=
  ⟨Nat.sub_le_sub_right (skipSpaces_length_le s) s.pos, id⟩

theorem skipSpaces_delim (s : St) : (skipSpaces s).delim = s.delim := rfl

theorem spacePats_pos : ∀ p ∈ spacePats, 1 ≤ p.length := by decide

theorem spaceHead_eq_zero_iff (l : Bytes) :
    spaceHead l = 0 ↔ ∀ p ∈ spacePats, p.isPrefixOf l = false := by
  unfold spaceHead
  cases hf : spacePats.find? (fun p => p.isPrefixOf l) with
  | none =>
    refine ⟨fun _ p hp => ?_, fun _ => rfl⟩
    exact Bool.eq_false_iff.mpr (List.find?_eq_none.mp hf p hp)
  | some p =>
    have hm := List.mem_of_find?_eq_some hf
    have hp := List.find?_some hf
    have := spacePats_pos p hm
    exact ⟨fun h0 : p.length = 0 => by omega, fun hall => by rw [hall p hm] at hp; cases hp⟩

theorem spaceHead_prefix {l t : Bytes} (h : spaceHead l = 0) (ht : t <+: l) : spaceHead t = 0 := by
  rw [spaceHead_eq_zero_iff] at h ⊢
  intro p hp
  cases hx : p.isPrefixOf t with
  | false => rfl
  | true =>
    rw [← h p hp]
    exact (List.isPrefixOf_iff_prefix.mpr ((List.isPrefixOf_iff_prefix.mp hx).trans ht)).symm

theorem spaceHead_le (l : Bytes) : spaceHead l ≤ l.length := by
  unfold spaceHead
  cases hf : spacePats.find? (fun p => p.isPrefixOf l) with
  | none => exact Nat.zero_le _
  | some p =>
    have hp := List.find?_some hf
    exact (List.isPrefixOf_iff_prefix.mp hp).length_le

theorem trimLeft_eq_self {l : Bytes} (h : spaceHead l = 0) (n : Nat) : trimLeft n l = l := by
  cases n with
  | zero => rfl
  | succ n => simp [trimLeft, h]

theorem trimLeft_lead (n : Nat) (l : Bytes) (hl : l.length ≤ n) : spaceHead (trimLeft n l) = 0 := by
  fun_induction trimLeft n l with
  | case1 => rw [List.eq_nil_of_length_eq_zero (Nat.le_zero.mp hl)]; rfl
  | case2 => assumption
  | case3 _ _ h0 ih =>
    -- a white-space rune was cut off, so one unit of fuel less is still enough
    rw [List.length_drop] at ih
    exact ih (Nat.sub_le_of_le_add (Nat.le_trans hl (Nat.add_le_add_left (Nat.pos_of_ne_zero h0) _)))

theorem skipSpaces_lead (s : St) : spaceHead (skipSpaces s).input = 0 :=
  trimLeft_lead _ _ (Nat.le_refl _)

theorem skipSpaces_eq_self {s : St} (h : trimLeft s.input.length s.input = s.input) : skipSpaces s = s := by
  unfold skipSpaces
  simp [h]

theorem skipQuoteLoop_moved (q : UInt8) (e : Bool) (fuel : Nat) (s : St) :
    ∀ s', skipQuoteLoop q e fuel s = some s' → Moved s s' := by
  fun_induction skipQuoteLoop q e fuel s with
  | case1 => nofun
  | case2 => nofun
  | case3 _ _ _ _ hn _ ih => exact fun s' h => ((moved_of_next hn).trans (next_moved _)).trans (ih s' h)
  | case4 _ _ _ _ hn => intro s' h; cases h; exact moved_of_next hn
  | case5 _ _ _ _ hn _ _ ih => exact fun s' h => (moved_of_next hn).trans (ih s' h)
  | case6 _ _ _ hn ih => exact fun s' h => (moved_of_next hn).trans (ih s' h)

theorem skipQuote_moved {o : Opts} {s s' : St} {q : UInt8} (h : skipQuote o s q = some s') : Moved s s' :=
  skipQuoteLoop_moved q _ _ s s' h

theorem word_length {w s r : Bytes} (h : word w s = some r) : r.length + w.length = s.length := by
  fun_induction word w s with
  | case1 => cases h; rfl
  | case2 | case4 => cases h
  | case3 _ _ _ _ _ ih => rw [List.length_cons, List.length_cons, ← ih h]; rfl

theorem reBegin_le {l : Bytes} {n : Nat} (h : reBegin l = some n) : 1 ≤ n ∧ n ≤ l.length := by
  unfold reBegin at h
  simp only at h
  split at h
  · cases h
  · rename_i s2 hw
    split at h
    · cases h
      have h1 := word_length hw
      have h2 := (List.dropWhile_suffix (l := l) isReSpace).length_le
      exact ⟨Nat.sub_pos_of_lt (by omega), Nat.sub_le ..⟩
    · cases h

theorem reBeginAtomic_le {l : Bytes} {n : Nat} (h : reBeginAtomic l = some n) : 1 ≤ n ∧ n ≤ l.length := by
  unfold reBeginAtomic at h
  split at h
  · cases h
  · rename_i m _
    split at h
    · cases h
    · rename_i s2 hw
      simp only at h
      split at h
      · cases h
        have h1 := word_length hw
        have h2 := (List.drop_suffix m l).length_le
        exact ⟨Nat.sub_pos_of_lt (by omega), Nat.sub_le ..⟩
      · cases h

theorem skipTag_length_le (f : Nat) (l : Bytes) : (skipTag f l).length ≤ l.length := by
  fun_induction skipTag f l with
  | case1 | case3 | case5 | case6 => exact Nat.le_refl _
  | case2 _ _ _ _ ih => exact Nat.le_trans ih (Nat.le_trans (Nat.le_succ _) (Nat.le_succ _))
  | case4 _ _ _ _ _ ih => exact Nat.le_trans ih (Nat.le_succ _)

theorem dollarClose_length_lt {r r2 : Bytes} (h : dollarClose r = some r2) : r2.length < r.length := by
  unfold dollarClose at h
  split at h
  · rename_i r2' heq
    cases h
    have := skipTag_length_le r.length r
    rw [heq] at this
    exact this
  · cases h

theorem reDollarQuote_le {l : Bytes} {n : Nat} (h : reDollarQuote l = some n) : 2 ≤ n ∧ n ≤ l.length := by
  unfold reDollarQuote at h
  split at h
  · rename_i r
    split at h
    · cases hc : dollarClose r with
      | none => rw [hc] at h; cases h
      | some r2 =>
        rw [hc] at h; cases h
        have := dollarClose_length_lt hc
        exact ⟨Nat.le_sub_of_add_le (by simp only [List.length_cons]; omega), Nat.sub_le ..⟩
    · cases h
  · cases h

theorem indexOf_le {pat l : Bytes} {i : Nat} (h : indexOf pat l = some i) : i + pat.length ≤ l.length := by
  fun_induction indexOf pat l generalizing i with
  | case1 hp => cases h; rw [List.isEmpty_iff.mp hp]; exact Nat.le_refl _
  | case2 => cases h
  | case3 _ _ hp => cases h; rw [Nat.zero_add]; exact (List.isPrefixOf_iff_prefix.mp hp).length_le
  | case4 b s hp ih =>
    cases hi : indexOf pat s with
    | none => rw [hi] at h; cases h
    | some j =>
      rw [hi] at h
      simp only [Option.map_some, Option.some.injEq] at h
      subst h
      rw [List.length_cons, Nat.add_right_comm]
      exact Nat.succ_le_succ (ih hi)

theorem hasPrefixAt_le {inp p : Bytes} {i : Nat} (h : hasPrefixAt inp i p = true) (hi : i ≤ inp.length) :
    i + p.length ≤ inp.length := by
  have := (List.isPrefixOf_iff_prefix.mp h).length_le
  simp only [List.length_drop] at this
  omega

theorem match_end {inp : Bytes} {pos n : Nat} (h1 : pos ≤ inp.length) (h2 : n ≤ (inp.drop (pos - 1)).length) :
    pos + (n - 1) ≤ inp.length := by
  rw [List.length_drop] at h2; omega

theorem dollarLoop_moved (m : Bytes) (fuel : Nat) (s : St) : Moved s (dollarLoop m fuel s) := by
  fun_induction dollarLoop m fuel s with
  | case1 => exact .refl _
  | case2 _ _ _ hn => exact moved_of_next hn
  | case4 _ _ _ _ hn _ ih => exact (moved_of_next hn).trans ih
  | case5 _ _ _ hn ih => exact (moved_of_next hn).trans ih
  | case3 _ _ s1 _ hn hc =>
    -- the closing tag starts at the `$` just read, so it ends inside the input
    refine (moved_of_next hn).trans (addPos_moved s1 _ fun hb => ?_)
    simp only [Bool.and_eq_true] at hc
    have h1 := bounds_of_next hn nofun
    have := hasPrefixAt_le hc.2 (by omega)
    omega

theorem skipDollarQuote_moved {s s' : St} (h : skipDollarQuote s = some s') : Moved s s' := by
  unfold skipDollarQuote at h
  split at h
  · cases h
  · rename_i n hr
    cases h
    exact (addPos_moved s (n - 1) fun hb => match_end hb (reDollarQuote_le hr).2).trans (dollarLoop_moved ..)

theorem delimLoop_moved (fuel : Nat) (s : St) (r : R) : Moved s (delimLoop fuel s r) := by
  fun_induction delimLoop fuel s r with
  | case1 | case2 | case3 => exact .refl _
  | case4 _ _ _ _ _ hn _ _ ih => exact (moved_of_next hn).trans ih

theorem unescape_ne_nil (d : Bytes) (hd : d ≠ []) : unescape d ≠ [] := by
  fun_cases unescape d with
  | case1 | case2 | case3 | case4 => exact List.cons_ne_nil _ _
  | case5 => exact absurd rfl hd

/-- `s'.delim ≠ []` feeds `Le.delim`, on which the strict progress of the delimiter break rests. -/
theorem setDelim_some {s s' : St} {d : Bytes} (h : setDelim s d = some s') :
    s'.input = s.input ∧ s'.pos = s.pos ∧ s'.total = s.total ∧ s'.delim ≠ [] := by
  unfold setDelim at h
  split at h
  · cases h
  · rename_i hd
    cases h
    exact ⟨rfl, rfl, rfl, unescape_ne_nil d fun he => hd (by simp [he])⟩

theorem setDelim_moved {s s' : St} {d : Bytes} (h : setDelim s d = some s') : Moved s s' := by
  obtain ⟨e1, e2, e3, d2⟩ := setDelim_some h
  exact ⟨e1, fun _ => d2, Nat.le_of_eq e2.symm, by rw [e2, e3], fun hb => e2 ▸ hb⟩

theorem delimCmd_inv {src : Bytes} {fixed : Bool} {o : Opts} {s s' : St} (inv : Inv src s)
    (h : delimCmd fixed o s = .inr s') :
    Inv src s' ∧ (s' = s ∨ s'.pos = 0) ∧ s'.input.length ≤ s.input.length := by
  revert h
  fun_cases delimCmd with
  | case1 => intro h; cases h; exact ⟨inv, .inl rfl, Nat.le_refl _⟩
  | case2 | case3 => nofun
  | case4 _ s1 _ _ _ _ s2 hs =>
    intro h; cases h
    have m : Moved s s2 := (delimLoop_moved ..).trans (setDelim_moved hs)
    exact ⟨reset_inv (m.inv inv) [], .inr rfl, by simp [emit, m.input]⟩

theorem comment_inv {src : Bytes} {s : St} (inv : Inv src s) (leftLen : Nat) (right : Bytes) :
    Inv src (comment s leftLen right) ∧ (comment s leftLen right).delim = s.delim ∧
      ((comment s leftLen right).input = s.input ∨
       ((comment s leftLen right).pos = 0 ∧ spaceHead (comment s leftLen right).input = 0)) ∧
      (comment s leftLen right).input.length ≤ s.input.length := by
  have h1 : ∀ i, indexOf right (s.input.drop s.pos) = some i → Inv src (s.addPos (i + right.length)) := fun i hi => by
    have hle := indexOf_le hi
    rw [List.length_drop] at hle
    exact (addPos_moved s _ fun _ => by omega).inv inv
  fun_cases comment with
  | case1 => exact ⟨inv, rfl, .inl rfl, Nat.le_refl _⟩
  | case2 i hi => exact ⟨h1 i hi, rfl, .inl rfl, Nat.le_refl _⟩
  | case3 i hi _ s1 _ inp =>
    exact ⟨skipSpaces_inv (reset_inv (h1 i hi) _) rfl, rfl, .inr ⟨rfl, skipSpaces_lead _⟩,
      Nat.le_trans (skipSpaces_length_le _) (by simp [inp, s1, St.addPos])⟩

theorem trimRight_prefix (n : Nat) (l : Bytes) : trimRight n l <+: l := by
  fun_induction trimRight n l with
  | case1 | case2 => exact List.prefix_refl _
  | case3 _ _ _ ih => exact ih.trans (List.take_prefix ..)

theorem trimSuffix_prefix (l suf : Bytes) : trimSuffix l suf <+: l := by
  unfold trimSuffix
  split
  · exact List.take_prefix _ l
  · exact List.prefix_refl l

/-- without leading white space the left trim of `emit` does nothing: only the delimiter and trailing
white space go. -/
theorem emit_text_prefix (o : Opts) (s : St) {text : Bytes} (h : spaceHead text = 0) :
    (emit o s text).2.text <+: text := by
  have key : ∀ t : Bytes, t <+: text → trimSpace t <+: text := fun t ht => by
    unfold trimSpace
    rw [trimLeft_eq_self (spaceHead_prefix h ht)]
    exact (trimRight_prefix _ t).trans ht
  show trimSpace (if o.omitDelimiter || s.delim != [0x3b] then trimSuffix text s.delim else text) <+: text
  split
  · exact key _ (trimSuffix_prefix text s.delim)
  · exact key _ (List.prefix_refl text)

theorem emit_ok {src : Bytes} {o : Opts} {s : St} (li : LoopInv src s) :
    Inv src (emit o s (s.input.take s.pos)).1 ∧ (emit o s (s.input.take s.pos)).1.pos = 0 ∧
    StmtOK src (off src s) (off src (emit o s (s.input.take s.pos)).1) (emit o s (s.input.take s.pos)).2 := by
  have hb := li.inv.bound
  -- the statement is a prefix of `input[0:pos]`, reported at the offset of `input` in `src`
  have hpre := emit_text_prefix o s (spaceHead_prefix li.lead (List.take_prefix s.pos s.input))
  have hk := hpre.length_le
  have htext := List.prefix_iff_eq_take.mp (hpre.trans (List.take_prefix ..))
  have hlen : (s.input.take s.pos).length = s.pos := List.length_take_of_le hb
  have hpos : (emit o s (s.input.take s.pos)).2.pos = off src s := by
    show s.total - (s.input.take s.pos).length = off src s
    rw [hlen, li.inv.total]; omega
  have hoff : off src (emit o s (s.input.take s.pos)).1 = off src s + s.pos := off_shift li.inv _ hb rfl
  refine ⟨reset_inv li.inv [], rfl, ?_, ?_, ?_⟩
  · rw [hpos]; exact Nat.le_refl _
  · rw [hpos, hoff]; omega
  · rw [hpos, li.inv.suffix]; exact htext.symm

theorem init_ok {fixed : Bool} {input : Bytes} {b : St} (h : init fixed input = some b) :
    b.pos = 0 ∧ b.delim ≠ [] ∧
      ∃ k, k ≤ input.length ∧ b.input = input.drop k ∧ b.total = if fixed then k else 0 := by
  revert h
  fun_cases init with
  | case1 | case2 => nofun
  | case3 _ _ _ _ _ _ s1 hs i hi =>
    intro h; cases h
    exact ⟨(setDelim_some hs).2.1, (setDelim_some hs).2.2.2, i + 1, indexOf_le hi, rfl, rfl⟩
  | case4 | case5 =>
    intro h; rw [← Option.some.inj h]; exact ⟨rfl, by simp, 0, Nat.zero_le _, rfl, (ite_self 0).symm⟩

theorem init_inv {input : Bytes} {b : St} (h : init true input = some b) : Inv input b := by
  obtain ⟨hp, _, k, hk, hi, ht⟩ := init_ok h
  have base : Inv input { input := input } := ⟨Nat.le_refl _, by simp [off], by simp [off], Nat.zero_le _⟩
  exact base.shift b k hk hi (by rw [ht, hp]; simp) (by rw [hp]; exact Nat.zero_le _)

theorem init_shape {fixed : Bool} {nsrc : Bytes} {b : St} (h : init fixed nsrc = some b) :
    b.pos = 0 ∧ b.input.length ≤ nsrc.length ∧ b.delim ≠ [] := by
  obtain ⟨hp, hd, k, _, hi, _⟩ := init_ok h
  exact ⟨hp, by rw [hi, List.length_drop]; omega, hd⟩

theorem init_len {fixed : Bool} {nsrc : Bytes} {b : St} (h : init fixed nsrc = some b) : True := trivial

end Atlas.Lex

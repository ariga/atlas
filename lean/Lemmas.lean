import Lemmas.FindKey
import Lemmas.SortBy
import Lemmas.Revs
import Lemmas.Exec
import Lemmas.ExecInv
import Lemmas.ExecDir
import Lemmas.ExecRevs
import Lemmas.Pending
import Lemmas.SetVersion
import Lemmas.Hash
import Lemmas.HashRoundTrip
import Lemmas.Lex
import Lemmas.LexStep
import Lemmas.LexFuel
import Lemmas.TxOps
import Lemmas.TxFile
import Lemmas.TxLoop
import Lemmas.TxDir
import Lemmas.TxPlan
import Lemmas.Clean
import Lemmas.Tidb
import Lemmas.Diff
import Lemmas.ExcludeAbsent
import Lemmas.Qualify
import Lemmas.SortMap
import Lemmas.SortDfs
import Lemmas.SortDetach
import Lemmas.SortPrefix

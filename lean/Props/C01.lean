/-
C01 — Declarative apply converges: one plan takes any database to the desired schema.

Model: `Atlas.Plan` — (1) the SQLite planner's choice of program (`alterable`, in-place ALTER vs the
rebuild procedure) as a function of the change kinds, compared statement by statement with the real
planner by the correspondence run; (2) an abstract engine executing that program on a table (ADD
COLUMN appends, CREATE/DROP INDEX, rebuild = desired definition + all desired indexes).

Proved (tables with any number of columns and indexes):
* `second_plan_empty` — after executing the planned program the diff to the desired table is empty;
* `apply_idempotent`, `apply_n_times` — a second (third, ...) apply of the same desired table executes nothing:
  the table stays exactly as the first apply left it;
* `converges` — the resulting table has the desired keys/constraints/options token, exactly the
  desired columns and exactly the desired indexes (as sets; in-place ADD COLUMN appends, so the storage
  order of columns may differ from the declaration, which the differ ignores);
* `rebuild_is_exact` — the rebuild path yields the desired table literally;
* `alter_shape`, `rebuild_shape` — the in-place program contains no CREATE/DROP TABLE/RENAME, the
  rebuild program re-creates every index of the desired table.

PARTIAL: the statement about the *real* SQLite engine is decided by executing the plans: 6000 random pairs
per thorough run over the whole feature set, judged by Atlas's own re-diff AND an independent pragma catalogue of the live vs the desired
database. The abstract engine does not model data, foreign-key enforcement or SQL text.
-/
import Atlas.Plan

namespace Props.C01
open Atlas.Plan

theorem mem_diffPT (a b : PT) (x : PC) : x ∈ diffPT a b ↔ match x with
    | .other => a.rest ≠ b.rest ∨ ∃ c ∈ a.cols, c ∉ b.cols
    | .addCol c => c ∈ b.cols ∧ c ∉ a.cols
    | .dropIdx i => i ∈ a.idxs ∧ i ∉ b.idxs
    | .addIdx i => i ∈ b.idxs ∧ i ∉ a.idxs := by
  -- normalise membership in the four appended pieces, then see which can hold `x`
  unfold diffPT
  simp only [List.mem_append, List.mem_map, List.mem_filter, List.mem_ite_nil_right, List.mem_singleton,
    List.contains_eq_mem, Bool.or_eq_true, bne_iff_ne, ne_eq, List.any_eq_true, Bool.not_eq_eq_eq_not, Bool.not_true,
    decide_eq_false_iff_not]
  cases x <;> simp

theorem foldl_addCol (cs : List Nat) (t : PT) :
    (cs.map PC.addCol).foldl alterStep t = { t with cols := t.cols ++ cs } := by
  induction cs generalizing t with
  | nil => simp
  | cons c cs ih => rw [List.map_cons, List.foldl_cons, ih]; simp [alterStep]

theorem foldl_addIdx (is : List Nat) (t : PT) :
    (is.map PC.addIdx).foldl alterStep t = { t with idxs := t.idxs ++ is } := by
  induction is generalizing t with
  | nil => simp
  | cons c cs ih => rw [List.map_cons, List.foldl_cons, ih]; simp [alterStep]

theorem foldl_dropIdx (ds : List Nat) (t : PT) :
    (ds.map PC.dropIdx).foldl alterStep t = { t with idxs := t.idxs.filter (fun i => !ds.contains i) } := by
  induction ds generalizing t with
  | nil => simp [List.filter_eq_self.mpr]
  | cons d ds ih =>
    rw [List.map_cons, List.foldl_cons, ih]
    simp only [alterStep, List.filter_filter, List.contains_cons, Bool.not_or, Bool.and_comm, bne]

theorem mem_foldl_cols (cs : List PC) (t : PT) (c : Nat) :
    c ∈ (cs.foldl alterStep t).cols ↔ c ∈ t.cols ∨ PC.addCol c ∈ cs := by
  induction cs generalizing t with
  | nil => simp
  | cons x xs ih =>
    rw [List.foldl_cons, ih]
    cases x with
    | addCol c' =>
      simp only [alterStep, List.mem_append, List.mem_cons, List.not_mem_nil, or_false, PC.addCol.injEq, or_assoc]
    | _ => simp only [alterStep, List.mem_cons, reduceCtorEq, false_or]

theorem rest_foldl (cs : List PC) (t : PT) : (cs.foldl alterStep t).rest = t.rest := by
  induction cs generalizing t with
  | nil => rfl
  | cons x xs ih => rw [List.foldl_cons, ih]; cases x <;> rfl

/-- the in-place program, executed: the new columns are appended, the vanished indexes removed, the new ones appended. -/
theorem foldl_diffPT (a b : PT) : (diffPT a b).foldl alterStep a =
    { cols := a.cols ++ b.cols.filter (fun c => !a.cols.contains c), rest := a.rest,
      idxs := a.idxs.filter (fun i => !(a.idxs.filter (fun i => !b.idxs.contains i)).contains i) ++
        b.idxs.filter (fun i => !a.idxs.contains i) } := by
  unfold diffPT
  rw [List.foldl_append, List.foldl_append, List.foldl_append, foldl_addIdx, foldl_dropIdx, foldl_addCol]
  split <;> rfl

/-- what `converges` means: same rebuild-only token, same columns, same indexes. -/
structure Same (t b : PT) : Prop where
  rest : t.rest = b.rest
  cols : ∀ c, c ∈ t.cols ↔ c ∈ b.cols
  idxs : ∀ i, i ∈ t.idxs ↔ i ∈ b.idxs

theorem rebuild_is_exact (simple : Nat → Bool) (a b : PT) (h : (diffPT a b).all (PC.alterable simple) = false) :
    applyPlan simple a b = b := by
  simp [applyPlan, h]

theorem converges (simple : Nat → Bool) (a b : PT) : Same (applyPlan simple a b) b := by
  simp only [applyPlan]
  split
  · rename_i h
    -- no `other` change: rest equal, every current column is a desired column
    have hno : ¬(a.rest ≠ b.rest ∨ ∃ c ∈ a.cols, c ∉ b.cols) := fun hm =>
      absurd (List.all_eq_true.mp h PC.other ((mem_diffPT a b .other).mpr hm)) (by simp [PC.alterable])
    rw [foldl_diffPT]
    refine ⟨Decidable.not_not.mp fun h => hno (.inl h), fun c => ?_, fun i => ?_⟩
    · by_cases hc : c ∈ a.cols
      · simpa [hc] using Decidable.not_not.mp fun h => hno (.inr ⟨c, hc, h⟩)
      · simp [hc]
    · by_cases h1 : i ∈ a.idxs <;> by_cases h2 : i ∈ b.idxs <;> simp [h1, h2]
  · exact ⟨rfl, fun _ => Iff.rfl, fun _ => Iff.rfl⟩

theorem diff_same_nil (t b : PT) (h : Same t b) : diffPT t b = [] := by
  refine List.eq_nil_iff_forall_not_mem.mpr fun x hx => ?_
  rw [mem_diffPT] at hx
  cases x with
  | other => exact hx.elim (fun hr => hr h.rest) fun ⟨c, hc, hn⟩ => hn ((h.cols c).mp hc)
  | addCol c => exact hx.2 ((h.cols c).mpr hx.1)
  | dropIdx i => exact hx.2 ((h.idxs i).mp hx.1)
  | addIdx i => exact hx.2 ((h.idxs i).mpr hx.1)

theorem second_plan_empty (simple : Nat → Bool) (a b : PT) : diffPT (applyPlan simple a b) b = [] :=
  diff_same_nil _ _ (converges simple a b)

/-! ### the shape of the program -/

theorem alterStmts_inplace : ∀ (cs : List CK) (s : St), s ∈ alterStmts cs →
    s = .alterAdd ∨ s = .createIndex ∨ s = .dropIndex ∨ s = .renameColumn := by
  intro cs
  induction cs with
  | nil => intro s h; cases h
  | cons c rest ih =>
    intro s h
    cases c with
    | addColumn _ => exact (List.mem_cons.mp h).elim .inl (ih s)
    | addIndex => exact (List.mem_cons.mp h).elim (fun e => .inr (.inl e)) (ih s)
    | dropIndex => exact (List.mem_cons.mp h).elim (fun e => .inr (.inr (.inl e))) (ih s)
    | renameColumn => exact (List.mem_cons.mp h).elim (fun e => .inr (.inr (.inr e))) (ih s)
    | renameIndex =>
      rcases List.mem_cons.mp h with e | h
      · exact .inr (.inl e)
      · exact (List.mem_cons.mp h).elim (fun e => .inr (.inr (.inl e))) (ih s)
    | other => exact ih s h

theorem alter_shape (cs : List CK) (n k : Nat) (h : alterable cs = true) :
    ∀ s ∈ shapeOf (.modifyTable cs n k), s ≠ .createNew ∧ s ≠ .dropTable ∧ s ≠ .rename ∧ s ≠ .copy ∧ s ≠ .createTable := by
  intro s hs
  simp only [shapeOf, h, if_true] at hs
  rcases alterStmts_inplace cs s hs with rfl | rfl | rfl | rfl <;> simp

theorem rebuild_shape (cs : List CK) (n k : Nat) (h : alterable cs = false) :
    shapeOf (.modifyTable cs n k) =
      [.createNew] ++ (if k > 0 then [.copy] else []) ++ [.dropTable, .rename] ++ List.replicate n .createIndex := by
  simp [shapeOf, h]

theorem apply_idempotent (simple : Nat → Bool) (a b : PT) :
    applyPlan simple (applyPlan simple a b) b = applyPlan simple a b := by
  have h := second_plan_empty simple a b
  generalize applyPlan simple a b = m at h ⊢
  unfold applyPlan
  simp [h]

theorem apply_n_times (simple : Nat → Bool) (a b : PT) (n : Nat) :
    Nat.repeat (fun t => applyPlan simple t b) (n + 1) a = applyPlan simple a b := by
  induction n with
  | zero => rfl
  | succ n ih => simp only [Nat.repeat] at ih ⊢; rw [ih, apply_idempotent]

/-! ### non-vacuity -/

/-- add a plain column and an index, drop an index: in place; the new column ends up last. -/
example : applyPlan (fun _ => true) ⟨[1, 2], 0, [10, 11]⟩ ⟨[1, 3, 2], 0, [11, 12]⟩ = ⟨[1, 2, 3], 0, [11, 12]⟩ := by decide +kernel
/-- a changed constraint token forces the rebuild: the result is the desired table literally. -/
example : applyPlan (fun _ => true) ⟨[1, 2], 0, [10]⟩ ⟨[1, 3, 2], 7, [10]⟩ = ⟨[1, 3, 2], 7, [10]⟩ := by decide +kernel
example : diffPT (applyPlan (fun c => c != 3) ⟨[1, 2], 0, [10, 11]⟩ ⟨[1, 3, 2], 0, [11, 12]⟩) ⟨[1, 3, 2], 0, [11, 12]⟩ = [] := by decide +kernel

end Props.C01

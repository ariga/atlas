/-
C03 — Schema exports are faithful: inspected HCL and SQL recreate the same database.

The SQL export is the plan of (empty → inspected) (cmdlog.sqlInspect); the HCL export is compared by
the differ. Over the differ model `Atlas.Diff` and the planner-shape model `Atlas.Plan`:
* `export_creates_all` — the diff from the empty schema is exactly one AddTable per inspected table,
  in inspection order: nothing is dropped, modified or left out, for schemas of any size;
* `export_shape` — the planned SQL export is, per table, CREATE TABLE followed by one CREATE INDEX
  per index, nothing else;
* `faithful_both_directions` — if re-creating the export yields the same tables with the same
  children (in any order), the comparison is empty in both directions;
* `export_replay_identity` / `export_round_trip` — over an abstract engine (`replay`: each AddTable of
  the script creates the inspected table of that name), the script exported for any database with
  distinct table names builds exactly the inspected tables in inspection order, and the comparison
  with the original is empty in both directions, for schemas of any size (the hypothesis is needed:
  a counterexample with a duplicated name is proved beside it).

PARTIAL: that inspection recovers every property of the database (pragma + CREATE statement parsing)
and that the exports, executed / evaluated, yield such a schema is decided on a real engine by the
monitor: random databases over the whole feature set -> `atlas schema inspect` (HCL and SQL) ->
recreated on fresh databases -> independent pragma catalogue equal, `schema diff` empty in both
directions, inspecting twice byte-identical.
-/
import Props.C02
import Atlas.Plan

namespace Props.C03
open Atlas Atlas.Diff Props.C02

theorem export_creates_all (s : List Table) : schemaDiff [] s = s.map (fun t => Change.addTable t.name) :=
  keyedDiff_nil_left ..

theorem export_shape (idxCounts : List Nat) :
    Atlas.Plan.shape (idxCounts.map Atlas.Plan.Ch.addTable) =
      idxCounts.flatMap (fun n => Atlas.Plan.St.createTable :: List.replicate n Atlas.Plan.St.createIndex) := by
  simp [Atlas.Plan.shape, Atlas.Plan.shapeOf, List.flatMap_map]

theorem faithful_both_directions (s s' : List Table) (hw : WF s) (hw' : WF s')
    (h1 : ∀ a ∈ s, ∃ b ∈ s', Reordered a b) (h2 : ∀ b ∈ s', ∃ a ∈ s, Reordered a b) :
    schemaDiff s s' = [] ∧ schemaDiff s' s = [] := by
  refine ⟨diff_reordered s s' hw hw'.names h1 h2, diff_reordered s' s hw' hw.names ?_ ?_⟩
  · intro b hb
    obtain ⟨a, ha, hr⟩ := h2 b hb
    exact ⟨a, ha, reordered_symm hr⟩
  · intro a ha
    obtain ⟨b, hb, hr⟩ := h1 a ha
    exact ⟨b, hb, reordered_symm hr⟩

example : schemaDiff [] [tA, tB] = [.addTable 1, .addTable 2] := by decide +kernel

/-- what running the exported script on an empty database builds: every `addTable n` creates the
inspected table of that name (the CREATE TABLE statement is printed from it); a script holding any
other change creates nothing for it. -/
def replay (src : List Table) : List Change → List Table
  | [] => []
  | .addTable n :: cs =>
    (match src.find? (fun t => t.name == n) with | some t => [t] | none => []) ++ replay src cs
  | _ :: cs => replay src cs

theorem replay_sub (s : List Table) (hn : (s.map Table.name).Nodup) :
    ∀ sub : List Table, (∀ t ∈ sub, t ∈ s) → replay s (sub.map (fun t => Change.addTable t.name)) = sub := by
  intro sub
  induction sub with
  | nil => intro _; rfl
  | cons a as ih =>
    intro h
    simp only [List.map_cons, replay, Bool.beq_eq_decide_eq]
    rw [find_key_self Table.name hn (h a (List.mem_cons_self)), ih (fun t ht => h t (List.mem_cons_of_mem _ ht))]
    rfl

theorem export_replay_identity (s : List Table) (hn : (s.map Table.name).Nodup) :
    replay s (schemaDiff [] s) = s := by
  rw [export_creates_all]
  exact replay_sub s hn s (fun _ h => h)

theorem export_round_trip (s : List Table) (hw : WF s) :
    schemaDiff s (replay s (schemaDiff [] s)) = [] ∧ schemaDiff (replay s (schemaDiff [] s)) s = [] := by
  rw [export_replay_identity s hw.names]
  exact ⟨diff_self s hw, diff_self s hw⟩

/-- the hypothesis is needed: with two tables of one name the script creates the first twice. -/
example : replay [tA, { tB with name := 1 }] (schemaDiff [] [tA, { tB with name := 1 }]) ≠ [tA, { tB with name := 1 }] := by decide +kernel

example : replay [tA, tB] (schemaDiff [] [tA, tB]) = [tA, tB] := by decide +kernel

end Props.C03

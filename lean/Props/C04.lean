/-
C04 — Plans respect dependencies for every foreign-key graph, including cycles.

Model: `Atlas.Sort` (`dependencies`, `sortMap`, `DetachCycles`, `detachReferences`, `SortChanges`,
`dependsOn` of the community build), validated against the real MySQL and PostgreSQL planners on
every foreign-key graph with self loops over up to 3 tables (4 in the thorough tier) x every split
created/dropped/kept x input orders, with the replay monitor evaluated on the implementation's order.

Every theorem is for change sets of any size and any foreign-key graph (`plan_replays` is the catalogue name of
the property, DESIGN.md §C04, not a Lean object):
- the reorderings are permutations: `detachCycles_perm` (via `stableSortBy_perm`), `partition_perm`;
- `sortChanges_topo`: `SortChanges` is a topological sort when a rank decreases along every dependency;
- `create_plan_respects_fks`, `drop_plan_respects_fks` (`plan_replays` for create-only / drop-only change sets),
  each from an acyclic case (`create_/drop_acyclic_order`, instances of `acyclic_order`) and a cyclic one
  (`create_/drop_cyclic_order`, instances of `cyclic_order`);
- the TiDB planner (`Atlas.Tidb`) re-orders the pre-sorted atomic changes by a stable sort on `priority`:
  `tidb_order_stable`, `tidb_order_idempotent`, `tidb_keeps_presort_order` (one priority: create-only sets –
  CREATE TABLE, ADD FOREIGN KEY: 4 – and drop-only sets without a cycle, to which the theorems above carry
  over; a detached drop-only set has two, DROP FOREIGN KEY 2 before DROP TABLE 4 as pre-sorted: no theorem),
  `tidb_repoint_before_created_parent` (REFUTING: known finding
  `tidb-repointed-fk-planned-before-created-parent`).

PARTIAL: for change sets that MIX creations, drops and modifications, that `dependsOn` is acyclic after
`DetachCycles` (the hypothesis of `sortChanges_topo`) and that the order replays on the reference catalogue is
checked by the correspondence run and the replay monitor (exhaustively on the enumerated space, on random larger
graphs), not proved.
-/
import Lemmas.SortDetach
import Lemmas.SortPrefix
import Lemmas.Tidb

namespace Props.C04
open Atlas Atlas.Sort

theorem stableSortBy_perm {α : Type} (lt : α → α → Bool) (l : List α) : (stableSortBy lt l).Perm l :=
  Atlas.Sort.stableSortBy_perm lt l

/-- **detachCycles_perm**: when `sortMap` finds no cycle, `DetachCycles` returns exactly the given
changes, reordered. -/
theorem detachCycles_perm (cs : List Ch) (m : List (String × Nat)) (h : sortMap cs = some m) :
    (detachCycles cs).Perm cs := by
  unfold detachCycles
  rw [h]
  exact stableSortBy_perm _ _

theorem partition_perm (cs : List Ch) :
    (cs.filter (·.kind != .drop) ++ cs.filter (·.kind == .drop)).Perm cs :=
  allOf_perm cs

/-- **sortChanges_topo**: when a rank decreases along every dependency (`dependsOn` between different changes),
`SortChanges` returns a permutation in which every change comes after everything it depends on. (For mixed
change sets, that such a rank exists after `DetachCycles` is decided by the correspondence run and the replay
monitor.) -/
theorem sortChanges_topo (cs : List Ch) (rk : Ch → Nat)
    (hnd : (cs.map (·.id)).Nodup)
    (hrk : ∀ a ∈ cs, ∀ b ∈ cs, dependsOn a b = true → a.id ≠ b.id → rk b < rk a) :
    (sortChanges cs).Perm cs ∧
    ∀ pre c post, sortChanges cs = pre ++ c :: post →
      ∀ d ∈ cs, dependsOn c d = true → c.id ≠ d.id → d ∈ pre := by
  have hperm := allOf_perm cs
  have hmem : ∀ x, x ∈ allOf cs ↔ x ∈ cs := fun x => hperm.mem_iff
  have hnd' : ((allOf cs).map (·.id)).Nodup := (hperm.map _).nodup_iff.mpr hnd
  have hid := key_inj Ch.id hnd'
  have hrk' : ∀ a ∈ allOf cs, ∀ b ∈ allOf cs, dependsOn a b = true → a.id ≠ b.id → rk b < rk a :=
    fun a ha b hb => hrk a ((hmem a).mp ha) b ((hmem b).mp hb)
  have hfuel : ((allOf cs).length + 2) * (allOf cs).length ≤
      ((allOf cs).length + 2) * ((allOf cs).length + 2) + ((allOf cs).length + 2) :=
    Nat.le_trans (Nat.mul_le_mul_left _ (Nat.le_add_right _ 2)) (Nat.le_add_right _ _)
  obtain ⟨hp, hclosed⟩ := dfs_correct (edges := edgesOf (allOf cs)) (rk := rk) (all := allOf cs)
    (allOf cs).length _ hnd' (fun c hc d hd => (edgesOf_sound hid hc hd).1)
    (fun c hc d hd => have ⟨hdm, hne, hdep⟩ := edgesOf_sound hid hc hd; hrk' c hc d hdm hdep hne)
    (fun c _ => List.length_filter_le _ _) hfuel
  rw [sortChanges_eq]
  refine ⟨hp.trans hperm, fun pre c post heq d hd hdep hne => hclosed pre c post heq d ?_⟩
  have hc : c ∈ allOf cs := hp.mem_iff.mp (heq ▸ List.mem_append_cons_self)
  have hdm : d ∈ allOf cs := (hmem d).mpr hd
  exact List.mem_filter.mpr ⟨hdm, List.contains_iff_mem.mpr (hasE_complete rk hid hrk' hc hdm hne hdep)⟩

/-- non-vacuity of `sortChanges_topo`: the chain t0 → t1 → t2 with rank `4 - id` (referenced tables lower)
satisfies its hypotheses. -/
example :
    let cs : List Ch := [{ id := 1, kind := .add, table := "t0", fks := [{ sym := "fk", ref := "t1" }] },
                         { id := 2, kind := .add, table := "t1", fks := [{ sym := "fk", ref := "t2" }] },
                         { id := 3, kind := .add, table := "t2" }]
    (∀ a ∈ cs, ∀ b ∈ cs, dependsOn a b = true → a.id ≠ b.id → (4 - b.id) < (4 - a.id)) ∧
    (cs.map (·.id)).Nodup := by decide +kernel

/-- **acyclic_order**: for creations, drops, modifications alike: if `sortMap` succeeds and `dependencies`
records every dependency between two different changes as an edge between their tables, the plan is a
permutation with every change after what it depends on. Two dependent changes of ONE table (drop and re-create;
ALTER of a table created in the set) cannot meet the second hypothesis. -/
theorem acyclic_order (cs : List Ch) (m : List (String × Nat)) (hid : (cs.map (·.id)).Nodup)
    (hsm : sortMap cs = some m)
    (hrec : ∀ a ∈ cs, ∀ b ∈ cs, dependsOn a b = true → a.id ≠ b.id → Has (dependencies cs) a.table b.table) :
    (planOrder cs).Perm cs ∧
    ∀ pre c post, planOrder cs = pre ++ c :: post → c ∈ cs ∧
      ∀ d ∈ cs, dependsOn c d = true → c.id ≠ d.id → d ∈ pre := by
  have hperm : (detachCycles cs).Perm cs := detachCycles_perm cs m hsm
  obtain ⟨hp, hord⟩ := sortChanges_topo (detachCycles cs) (fun c => (lookup m c.table).getD 0)
    ((hperm.map _).nodup_iff.mpr hid)
    (fun a ha b hb hdep hne => sortMap_rank hsm (hrec a (hperm.mem_iff.mp ha) b (hperm.mem_iff.mp hb) hdep hne))
  refine ⟨hp.trans hperm, fun pre c post heq => ⟨?_, fun d hd => hord pre c post heq d (hperm.mem_iff.mpr hd)⟩⟩
  have : c ∈ planOrder cs := heq ▸ List.mem_append_cons_self
  exact (hp.trans hperm).mem_iff.mp this

/-- **create_acyclic_order**: new tables (one change per table) whose foreign-key graph passes the cycle detection
(`sortMap` succeeds; self references allowed) are planned as a permutation in which every table is created after
all the other tables its foreign keys reference. -/
theorem create_acyclic_order (cs : List Ch) (m : List (String × Nat))
    (hadd : ∀ c ∈ cs, c.kind = .add) (hid : (cs.map (·.id)).Nodup) (htab : (cs.map (·.table)).Nodup)
    (hsm : sortMap cs = some m) :
    (planOrder cs).Perm cs ∧
    ∀ pre c post, planOrder cs = pre ++ c :: post →
      ∀ fk ∈ c.fks, fk.ref ≠ c.table → ∀ d ∈ cs, d.table = fk.ref → d ∈ pre := by
  obtain ⟨hperm, hord⟩ := acyclic_order cs m hid hsm (by
    intro a ha b hb hdep hne
    obtain ⟨fk, hfk, hfr⟩ := (dependsOn_add_add (hadd a ha) (hadd b hb)).mp hdep
    -- a key to another change's table is a key to another table
    have htne : fk.ref ≠ a.table := fun e =>
      hne (congrArg (·.id) (key_inj (·.table) htab a ha b hb (e.symm.trans hfr)))
    exact hfr ▸ dependencies_add cs a ha (hadd a ha) fk hfk htne)
  refine ⟨hperm, fun pre c post heq fk hfk hne d hd hdt => ?_⟩
  obtain ⟨hc, h⟩ := hord pre c post heq
  exact h d hd ((dependsOn_add_add (hadd c hc) (hadd d hd)).mpr ⟨fk, hfk, hdt.symm⟩)
    (fun e => hne ((key_inj (·.id) hid c hc d hd e) ▸ hdt.symm))

/-- **drop_acyclic_order**: dropped tables whose foreign-key graph passes the cycle detection are planned as a
permutation in which every table is dropped only after every OTHER dropped table that holds a foreign key to it.
(A self reference counts as a cycle here: no guard in the DROP branch of `dependencies`; see
`drop_cyclic_order`.) -/
theorem drop_acyclic_order (cs : List Ch) (m : List (String × Nat))
    (hdrop : ∀ c ∈ cs, c.kind = .drop) (hid : (cs.map (·.id)).Nodup)
    (hsm : sortMap cs = some m) :
    (planOrder cs).Perm cs ∧
    ∀ pre d post, planOrder cs = pre ++ d :: post →
      ∀ c ∈ cs, c.id ≠ d.id → ∀ fk ∈ c.fks, fk.ref = d.table → c ∈ pre := by
  obtain ⟨hperm, hord⟩ := acyclic_order cs m hid hsm (by
    intro a ha b hb hdep _
    obtain ⟨fk, hfk, hfr⟩ := (dependsOn_drop_drop (hdrop a ha) (hdrop b hb)).mp hdep
    have hisd : isDropped cs fk.ref = true := by
      simp only [isDropped, List.any_eq_true, Bool.and_eq_true, beq_iff_eq]
      exact ⟨a, ha, hdrop a ha, hfr.symm⟩
    exact hfr ▸ dependencies_drop cs b hb (hdrop b hb) fk hfk hisd)
  refine ⟨hperm, fun pre d post heq c hc hne fk hfk hfr => ?_⟩
  obtain ⟨hd, h⟩ := hord pre d post heq
  exact h c hc ((dependsOn_drop_drop (hdrop d hd) (hdrop c hc)).mpr ⟨fk, hfk, hfr⟩) (fun e => hne e.symm)

/-- **cyclic_order**: for creations (`k = .add`) or drops (`k = .drop`), one change per table, when `sortMap` fails (a
cycle; in the model also fuel exhaustion) the plan is a permutation of the detached set – table changes with
self references only, ALTERs carrying the other keys – with every change after what it depends on. -/
theorem cyclic_order (k : Kind) (hk : k = .add ∨ k = .drop) (cs : List Ch)
    (hkind : ∀ c ∈ cs, c.kind = k) (hid : (cs.map (·.id)).Nodup) (htab : (cs.map (·.table)).Nodup)
    (hsm : sortMap cs = none) :
    (planOrder cs).Perm (detachCycles cs) ∧ ((detachCycles cs).map (·.id)).Nodup ∧
    (∀ x, x ∈ detachCycles cs ↔ x ∈ tablesOf k (freshBase cs) cs ∨ x ∈ altersOf k (freshBase cs) cs) ∧
    (∀ pre c post, planOrder cs = pre ++ c :: post →
      ∀ d ∈ detachCycles cs, dependsOn c d = true → c.id ≠ d.id → d ∈ pre) ∧
    (((planOrder cs).filter (·.kind == k)).map (·.table)).Perm (cs.map (·.table)) ∧
    (∀ p ∈ planOrder cs, p.kind = k → ∀ fk ∈ p.fks, fk.ref = p.table) := by
  have hdet : (detachCycles cs).Perm (tablesOf k (freshBase cs) cs ++ altersOf k (freshBase cs) cs) := by
    unfold detachCycles; rw [hsm]
    rcases hk with rfl | rfl
    · rw [detachReferences_add cs hkind]
    · rw [detachReferences_drop cs hkind]; exact List.perm_append_comm
  have hidD : ((detachCycles cs).map (·.id)).Nodup :=
    (hdet.map _).nodup_iff.mpr (ids_nodup k cs _ hid (lt_freshBase cs))
  have hmemD : ∀ x, x ∈ detachCycles cs ↔ x ∈ tablesOf k (freshBase cs) cs ∨ x ∈ altersOf k (freshBase cs) cs :=
    fun x => hdet.mem_iff.trans List.mem_append
  have hT := tablesOf_spec k (freshBase cs) hkind
  have hA := altersOf_kind k (freshBase cs) cs
  have hTt := tablesOf_table k (freshBase cs) cs
  have hrk : ∀ a ∈ detachCycles cs, ∀ b ∈ detachCycles cs, dependsOn a b = true → a.id ≠ b.id →
      kindRank b < kindRank a := fun a ha b hb =>
    kindRank_lt_of_dependsOn hk hT hA (key_inj Ch.table (by rw [hTt]; exact htab))
      ((hmemD a).mp ha) ((hmemD b).mp hb)
  obtain ⟨hp, hord⟩ := sortChanges_topo (detachCycles cs) kindRank hidD hrk
  have hp' : (planOrder cs).Perm (detachCycles cs) := hp  -- `planOrder` unfolds
  refine ⟨hp', hidD, hmemD, hord, ?_, ?_⟩
  · have hf : (tablesOf k (freshBase cs) cs ++ altersOf k (freshBase cs) cs).filter (·.kind == k) =
        tablesOf k (freshBase cs) cs := by
      rw [List.filter_append, List.filter_eq_self.mpr (fun x hx => by rw [(hT x hx).1]; exact beq_self_eq_true k),
        List.filter_eq_nil_iff.mpr (fun x hx => by rw [hA x hx]; rcases hk with rfl | rfl <;> decide),
        List.append_nil]
    have := (((hp'.trans hdet).filter (·.kind == k)).map (·.table))
    rwa [hf, hTt] at this
  · intro p hpO hpk fk hfk
    rcases (hmemD p).mp (hp'.mem_iff.mp hpO) with hP | hm
    · exact (hT p hP).2 fk hfk
    · rw [hA p hm] at hpk; rcases hk with rfl | rfl <;> cases hpk

/-- **create_cyclic_order**: new tables (one change per table) whose graph is reported cyclic (`sortMap` fails):
every table is created exactly once, with its self references only, and every foreign key to another table is
added by an ALTER that comes after the creation of the table itself AND of the referenced table. -/
theorem create_cyclic_order (cs : List Ch)
    (hadd : ∀ c ∈ cs, c.kind = .add) (hid : (cs.map (·.id)).Nodup) (htab : (cs.map (·.table)).Nodup)
    (hsm : sortMap cs = none) :
    -- the creations are those of the given tables, each once, holding self references only
    (((planOrder cs).filter (·.kind == .add)).map (·.table)).Perm (cs.map (·.table)) ∧
    (∀ p ∈ planOrder cs, p.kind = .add → ∀ fk ∈ p.fks, fk.ref = p.table) ∧
    -- every foreign key to another table is added after both tables exist
    ∀ c ∈ cs, ∀ fk ∈ c.fks, fk.ref ≠ c.table →
      ∃ pre d post, planOrder cs = pre ++ d :: post ∧ d.kind = .modify ∧ d.table = c.table ∧
        Sub.addFK fk ∈ d.subs ∧ (∃ p ∈ pre, p.kind = .add ∧ p.table = c.table) ∧
        ∀ q ∈ cs, q.table = fk.ref → ∃ p ∈ pre, p.kind = .add ∧ p.table = fk.ref := by
  obtain ⟨hp, hidD, hmemD, hord, h1, h2⟩ := cyclic_order .add (Or.inl rfl) cs hadd hid htab hsm
  refine ⟨h1, h2, ?_⟩
  have hT := tablesOf_spec .add (freshBase cs) hadd
  have hbefore : ∀ pre d post, planOrder cs = pre ++ d :: post → d.kind = .modify → ∀ q ∈ cs,
      (∀ p ∈ tablesOf .add (freshBase cs) cs, p.table = q.table → dependsOn d p = true) →
      ∃ p ∈ pre, p.kind = .add ∧ p.table = q.table := by
    intro pre d post hsplit hdk q hq hdep
    have : q.table ∈ (tablesOf .add (freshBase cs) cs).map (·.table) := by
      rw [tablesOf_table]; exact List.mem_map_of_mem hq
    obtain ⟨p, hpT, hpt⟩ := List.mem_map.mp this
    have hpD := (hmemD p).mpr (Or.inl hpT)
    refine ⟨p, hord pre d post hsplit p hpD (hdep p hpT hpt) ?_, (hT p hpT).1, hpt⟩
    intro e
    have hdD := hp.mem_iff.mp (hsplit ▸ List.mem_append_cons_self)
    rw [key_inj Ch.id hidD d hdD p hpD e, (hT p hpT).1] at hdk; cases hdk
  intro c hc fk hfk hne
  obtain ⟨d, hd, hdk, hdt, hdsub⟩ := altersOf_complete .add (freshBase cs) c hc fk hfk hne
  obtain ⟨pre, post, hsplit⟩ := List.append_of_mem (hp.mem_iff.mpr ((hmemD d).mpr (Or.inr hd)))
  refine ⟨pre, d, post, hsplit, hdk, hdt, hdsub, ?_, fun q hq hqt => ?_⟩
  · exact hbefore pre d post hsplit hdk c hc (fun p hpT hpt =>
      (dependsOn_modify_add hdk (hT p hpT).1).mpr (Or.inl (hdt.trans hpt.symm)))
  · obtain ⟨p, hp1, hp2, hp3⟩ := hbefore pre d post hsplit hdk q hq (fun p hpT hpt =>
      (dependsOn_modify_add hdk (hT p hpT).1).mpr (Or.inr ⟨fk, hdsub, hqt.symm.trans hpt.symm⟩))
    exact ⟨p, hp1, hp2, hp3.trans hqt⟩

/-- **drop_cyclic_order**: the same for dropped tables: every table is dropped exactly once, the drops hold self
references only, and every foreign key to another table is dropped by an ALTER that comes before ANY table is
dropped. -/
theorem drop_cyclic_order (cs : List Ch)
    (hdrop : ∀ c ∈ cs, c.kind = .drop) (hid : (cs.map (·.id)).Nodup) (htab : (cs.map (·.table)).Nodup)
    (hsm : sortMap cs = none) :
    (((planOrder cs).filter (·.kind == .drop)).map (·.table)).Perm (cs.map (·.table)) ∧
    (∀ p ∈ planOrder cs, p.kind = .drop → ∀ fk ∈ p.fks, fk.ref = p.table) ∧
    ∀ c ∈ cs, ∀ fk ∈ c.fks, fk.ref ≠ c.table →
      ∃ pre d post, planOrder cs = pre ++ d :: post ∧ d.kind = .modify ∧ d.table = c.table ∧
        Sub.dropFK fk ∈ d.subs ∧ ∀ p ∈ pre, p.kind ≠ .drop := by
  obtain ⟨-, hidD, hmemD, -, h1, h2⟩ := cyclic_order .drop (Or.inr rfl) cs hdrop hid htab hsm
  refine ⟨h1, h2, ?_⟩
  have hT := tablesOf_spec .drop (freshBase cs) hdrop
  have hA := altersOf_kind .drop (freshBase cs) cs
  have hdet : detachCycles cs = altersOf .drop (freshBase cs) cs ++ tablesOf .drop (freshBase cs) cs := by
    unfold detachCycles; rw [hsm]; exact detachReferences_drop cs hdrop
  -- an ALTER depends on creations only (`dependsOn_modify_eq_false`) and the detached set holds none
  have hmem : ∀ x, x ∈ allOf (detachCycles cs) ↔ x ∈ detachCycles cs := fun x => (allOf_perm _).mem_iff
  have hidA := key_inj Ch.id (((allOf_perm (detachCycles cs)).map _).nodup_iff.mpr hidD)
  have hno : ∀ c ∈ detachCycles cs, c.kind ≠ .drop → edgesOf (allOf (detachCycles cs)) c = [] := by
    intro c hc hk
    refine List.eq_nil_iff_forall_not_mem.mpr fun d hd => ?_
    obtain ⟨hdA, -, hdep⟩ := edgesOf_sound hidA ((hmem c).mpr hc) hd
    have hck : c.kind = .modify := ((hmemD c).mp hc).elim (fun h => absurd (hT c h).1 hk) (hA c)
    have hdk : d.kind ≠ .add := by
      rcases (hmemD d).mp ((hmem d).mp hdA) with h | h
      · rw [(hT d h).1]; decide
      · rw [hA d h]; decide
    rw [dependsOn_modify_eq_false hck hdk] at hdep; cases hdep
  obtain ⟨rest, hrest⟩ := sortChanges_prefix (detachCycles cs) hidD hno
  have hother : (detachCycles cs).filter (·.kind != .drop) = altersOf .drop (freshBase cs) cs := by
    rw [hdet, List.filter_append, List.filter_eq_self.mpr (fun x hx => by rw [hA x hx]; rfl),
      List.filter_eq_nil_iff.mpr (fun x hx => by rw [(hT x hx).1]; decide), List.append_nil]
  rw [hother] at hrest
  intro c hc fk hfk hne
  obtain ⟨d, hd, hdk, hdt, hdsub⟩ := altersOf_complete .drop (freshBase cs) c hc fk hfk hne
  obtain ⟨pre, post, hsplit⟩ := List.append_of_mem hd
  refine ⟨pre, d, post ++ rest, ?_, hdk, hdt, hdsub, fun p hpp => ?_⟩
  · show sortChanges (detachCycles cs) = _
    rw [hrest, hsplit, List.append_assoc]; rfl
  · rw [hA p (hsplit ▸ List.mem_append_left _ hpp)]; decide

/-- **create_plan_respects_fks**: `plan_replays` for change sets that only create tables: every foreign key to
another new table is established (inline in its CREATE TABLE, or by a later ALTER TABLE) only after that table
has been created. -/
theorem create_plan_respects_fks (cs : List Ch)
    (hadd : ∀ c ∈ cs, c.kind = .add) (hid : (cs.map (·.id)).Nodup) (htab : (cs.map (·.table)).Nodup) :
    ∀ c ∈ cs, ∀ fk ∈ c.fks, fk.ref ≠ c.table → ∀ q ∈ cs, q.table = fk.ref →
      ∃ pre x post, planOrder cs = pre ++ x :: post ∧ x.table = c.table ∧
        (fk ∈ x.fks ∨ Sub.addFK fk ∈ x.subs) ∧ ∃ p ∈ pre, p.kind = .add ∧ p.table = fk.ref := by
  intro c hc fk hfk hne q hq hqt
  cases hsm : sortMap cs with
  | some m =>
    obtain ⟨hperm, hord⟩ := create_acyclic_order cs m hadd hid htab hsm
    obtain ⟨pre, post, hsplit⟩ := List.append_of_mem (hperm.mem_iff.mpr hc)
    exact ⟨pre, c, post, hsplit, rfl, Or.inl hfk, q, hord pre c post hsplit fk hfk hne q hq hqt, hadd q hq, hqt⟩
  | none =>
    obtain ⟨_, _, h3⟩ := create_cyclic_order cs hadd hid htab hsm
    obtain ⟨pre, d, post, hsplit, _, hdt, hsub, _, href⟩ := h3 c hc fk hfk hne
    exact ⟨pre, d, post, hsplit, hdt, Or.inr hsub, href q hq hqt⟩

/-- **drop_plan_respects_fks**: `plan_replays` for change sets that only drop tables: every foreign key to another
dropped table disappears – with its own table's DROP TABLE, or by an earlier ALTER TABLE – before the referenced
table is dropped. -/
theorem drop_plan_respects_fks (cs : List Ch)
    (hdrop : ∀ c ∈ cs, c.kind = .drop) (hid : (cs.map (·.id)).Nodup) (htab : (cs.map (·.table)).Nodup) :
    ∀ c ∈ cs, ∀ fk ∈ c.fks, fk.ref ≠ c.table →
      ∃ pre x post, planOrder cs = pre ++ x :: post ∧ x.table = c.table ∧
        ((x.kind = .drop ∧ fk ∈ x.fks) ∨ Sub.dropFK fk ∈ x.subs) ∧
        ∀ p ∈ pre, ¬ (p.kind = .drop ∧ p.table = fk.ref) := by
  intro c hc fk hfk hne
  cases hsm : sortMap cs with
  | some m =>
    obtain ⟨hperm, hord⟩ := drop_acyclic_order cs m hdrop hid hsm
    obtain ⟨pre, post, hsplit⟩ := List.append_of_mem (hperm.mem_iff.mpr hc)
    refine ⟨pre, c, post, hsplit, rfl, Or.inl ⟨hdrop c hc, hfk⟩, ?_⟩
    rintro p hp ⟨_, hpt⟩
    -- p is the drop of the referenced table and stands before c: then c stands before p as well
    obtain ⟨a, b, rfl⟩ := List.append_of_mem hp
    have hpcs : p ∈ cs := hperm.mem_iff.mp (hsplit ▸ List.mem_append_left _ hp)
    have hca : c ∈ a := hord a p (b ++ c :: post) (by rw [hsplit, List.append_assoc]; rfl) c hc
      (fun e => hne (key_inj Ch.id hid c hc p hpcs e ▸ hpt.symm)) fk hfk hpt.symm
    have hnd : (planOrder cs).Nodup := nodup_of_map_id ((hperm.map _).nodup_iff.mpr hid)
    rw [hsplit] at hnd
    exact (List.nodup_append.mp hnd).2.2 c (List.mem_append_left _ hca) c (List.mem_cons_self ..) rfl
  | none =>
    obtain ⟨_, _, h3⟩ := drop_cyclic_order cs hdrop hid htab hsm
    obtain ⟨pre, d, post, hsplit, _, hdt, hsub, hpre⟩ := h3 c hc fk hfk hne
    exact ⟨pre, d, post, hsplit, hdt, Or.inr hsub, fun p hp h => hpre p hp h.1⟩

/-! ### non-vacuity -/

/-- a key to table `b`; `a` only names the holder for the reader. -/
def fk (a b : Nat) : FK :=
  { sym := "fk", ref := match b with | 0 => "t0" | 1 => "t1" | _ => "t2" }

/-- create t0 → t1 → t2 → t0 -/
def cycle3 : List Ch :=
  [{ id := 1, kind := .add, table := "t0", fks := [fk 0 1] },
   { id := 2, kind := .add, table := "t1", fks := [fk 1 2] },
   { id := 3, kind := .add, table := "t2", fks := [fk 2 0] }]

example : sortMap cycle3 = none := by decide +kernel

set_option maxRecDepth 8000 in
example : (planOrder cycle3).map (fun c => (c.kind, c.table, c.fks.length, c.subs.length)) =
    [(.add, "t0", 0, 0), (.add, "t1", 0, 0), (.add, "t2", 0, 0),
     (.modify, "t0", 0, 1), (.modify, "t1", 0, 1), (.modify, "t2", 0, 1)] := by decide +kernel

set_option maxRecDepth 8000 in
example : (planOrder [{ id := 1, kind := .add, table := "t0", fks := [fk 0 1] },
                      { id := 2, kind := .add, table := "t1", fks := [fk 1 2] },
                      { id := 3, kind := .add, table := "t2" }]).map (·.table) = ["t2", "t1", "t0"] := by decide +kernel

/-- drop t0 → t1 → t2 → t0 -/
def dropCycle3 : List Ch :=
  [{ id := 1, kind := .drop, table := "t0", fks := [fk 0 1] },
   { id := 2, kind := .drop, table := "t1", fks := [fk 1 2] },
   { id := 3, kind := .drop, table := "t2", fks := [fk 2 0] }]

example : sortMap dropCycle3 = none := by decide +kernel

set_option maxRecDepth 8000 in
example : (planOrder dropCycle3).map (fun c => (c.kind, c.table, c.fks.length, c.subs.length)) =
    [(.modify, "t0", 0, 1), (.modify, "t1", 0, 1), (.modify, "t2", 0, 1),
     (.drop, "t0", 0, 0), (.drop, "t1", 0, 0), (.drop, "t2", 0, 0)] := by decide +kernel

set_option maxRecDepth 8000 in
example : (planOrder [{ id := 3, kind := .drop, table := "t2" },
                      { id := 2, kind := .drop, table := "t1", fks := [fk 1 2] },
                      { id := 1, kind := .drop, table := "t0", fks := [fk 0 1] }]).map (·.table) = ["t0", "t1", "t2"] := by decide +kernel

/-! ### the TiDB ordering step -/

section Tidb
open Atlas.Tidb

/-- **tidb_order_stable**: the TiDB planner's sort is a permutation sorted by priority in which changes of equal
priority keep the order the topological pre-sort gave them. -/
theorem tidb_order_stable (l : List TCh) (k : Nat) :
    (order l).Perm l ∧ (order l).Pairwise (fun a b => priority a ≤ priority b) ∧
    (order l).filter (fun c => priority c = k) = l.filter (fun c => priority c = k) :=
  ⟨order_perm l, order_sorted l, order_stable l k⟩

/-- **tidb_keeps_presort_order**: change sets whose atomic changes have one priority (only CREATE TABLE, only
DROP TABLE) are planned exactly in the pre-sorted order. -/
theorem tidb_keeps_presort_order (l : List TCh) (k : Nat) (h : ∀ c ∈ l, priority c = k) : order l = l :=
  List.mergeSort_of_pairwise (pairwise_le_of_priority_eq h)

example : order [TCh.addTable 1, TCh.addTable 2, TCh.addTable 0] = [TCh.addTable 1, TCh.addTable 2, TCh.addTable 0] :=
  tidb_keeps_presort_order _ 4 (by decide)

/-- **tidb_order_idempotent**: ordering an ordered change list changes nothing. -/
theorem tidb_order_idempotent (l : List TCh) : order (order l) = order l :=
  List.mergeSort_of_pairwise (List.pairwise_mergeSort le_trans le_total l)

/-- **tidb_repoint_before_created_parent**: refuting witness, general form – whenever a change set holds a
foreign key re-pointed to table `t` and the creation of `t`, the TiDB planner plans the re-pointing first. -/
theorem tidb_repoint_before_created_parent (l xs ys : List TCh) (t : Nat) (hm : TCh.modifyFK t ∈ l)
    (h : order l = xs ++ TCh.addTable t :: ys) : TCh.modifyFK t ∈ xs := by
  have hin : TCh.modifyFK t ∈ order l := (order_perm l).mem_iff.mpr hm
  rw [h, List.mem_append, List.mem_cons] at hin
  rcases hin with h1 | h1 | h1
  · exact h1
  · cases h1
  · -- after the CREATE TABLE (priority 4) nothing of priority 3 can stand
    have hs := order_sorted l
    rw [h] at hs
    exact absurd ((List.pairwise_cons.mp (List.pairwise_append.mp hs).2.1).1 _ h1) (show ¬ (4 : Nat) ≤ 3 by decide)

/-! ### witness of the known finding -/

/-- the witness replayed by the correspondence run: in both input orders the ALTER precedes the CREATE. -/
example : order [TCh.addTable 1, TCh.modifyFK 1] = [TCh.modifyFK 1, TCh.addTable 1] := by
  simp [order, List.mergeSort, List.MergeSort.Internal.splitInTwo, le, priority]
example : order [TCh.modifyFK 1, TCh.addTable 1] = [TCh.modifyFK 1, TCh.addTable 1] := by
  simp [order, List.mergeSort, List.MergeSort.Internal.splitInTwo, le, priority]

end Tidb

end Props.C04

/-
C19 — Excluded resources and skipped change kinds never reach a plan.

Model: `Atlas.Exclude` (schema.ExcludeRealm with the `[type=…]` selector and `path/filepath.Match`),
validated against the implementation on a pattern grid, and a model of `DiffOptions.AddOrSkip`.

Proved, for realms / tables / change lists of any size and any pattern:
* the generic filter: `filterE_spec`, `filterE_error`, `filterE_sublist`;
* still present and managed: `unmatched_schema_untouched`; `single_part_match_excludes`;
  `excludeRealm_names_sublist`, `excludeRealm_length_le`;
* never reaches the differ / planner, for ANY realm and ANY accepted pattern list, wherever the pattern stands
  in it (over Lemmas/ExcludeAbsent.lean): `table_excluded_absent`, `schema_excluded_absent`,
  `excluded_never_added`;
* `AddOrSkip`: `skip_sound`, `skip_complete`;
* skipped kinds at both nesting levels of the differ model of C02 (`Atlas.Diff.schemaDiffSkip`, tied to the real
  `SchemaDiff(…, DiffSkipChanges(…))` of the three dialects by the C02/C19 correspondence), for ANY pair of
  schemas and ANY skip list: `skip_nested_sound`, `skip_nested_complete(_sub)`, `skip_nothing` (for a change list that holds no empty table modification),
  `skip_idempotent`, `skip_length_le`.

PARTIAL: triggers / functions / procedures / realm objects are not modelled; the kinds of table-attribute
changes (AddAttr / DropAttr / ModifyAttr) are one abstract kind.
-/
import Lemmas.Diff
import Lemmas.ExcludeAbsent

namespace Props.C19
open Atlas Atlas.Exclude

/-- **filterE_spec**: when the predicate never errors, `filter` keeps exactly the non-matching elements. -/
theorem filterE_spec {α : Type} (f : α → Except Unit Bool) (g : α → Bool) :
    ∀ (l : List α), (∀ a ∈ l, f a = .ok (g a)) → filterE f l = .ok (l.filter (fun a => !g a)) := by
  intro l h
  rw [filterE_eq_keepE, keepE_spec (Option.guard fun a => !g a) l fun a ha => by rw [h a ha]; rfl,
    List.filterMap_eq_filter]

/-- an error of the predicate on any element makes the whole filter fail (repaired tree: the error
reaches the caller). -/
theorem filterE_error {α : Type} (f : α → Except Unit Bool) :
    ∀ (l : List α), (∃ a ∈ l, f a = .error ()) → filterE f l = .error () := by
  intro l
  induction l with
  | nil => exact fun ⟨_, ha, _⟩ => nomatch ha
  | cons b bs ih =>
    rintro ⟨a, ha, hfa⟩
    unfold filterE
    rcases List.mem_cons.mp ha with rfl | hm
    · rw [hfa]
    · rw [ih ⟨a, hm, hfa⟩]; cases f b <;> rfl

/-- result of `filterE` is a sublist of its input. -/
theorem filterE_sublist {α : Type} (f : α → Except Unit Bool) :
    ∀ (l r : List α), filterE f l = .ok r → r.Sublist l := by
  intro l r h
  have := keepE_sublist id (fun a _ a' ha' => ?_) (filterE_eq_keepE f l ▸ h)
  · simpa only [List.map_id] using this
  · cases hfa : f a with
    | error e => rw [hfa] at ha'; cases ha'
    | ok m => rw [hfa] at ha'; cases m <;> cases ha'; rfl

/-- **unmatched_schema_untouched**: if every pattern's first part does not select schemas or does not match the
name, the schema comes out exactly as it went in, with all its tables, views and children. -/
theorem unmatched_schema_untouched (s : Schema) :
    ∀ (globs : List (List Text)),
      (∀ g ∈ globs, g.length ≤ 3 ∧
        ((schemaSel g).2 = false ∨ gmatch (schemaSel g).1 s.name = .ok false)) →
      excludeSchemaGlobs globs s = .ok (some s) := by
  intro globs
  induction globs with
  | nil => intro _; rfl
  | cons g gs ih =>
    intro h
    obtain ⟨hlen, hg⟩ := h g (List.mem_cons_self ..)
    have ih' := ih (fun x hx => h x (List.mem_cons_of_mem _ hx))
    unfold excludeSchemaGlobs
    rw [if_neg (by omega)]
    by_cases hsel : (schemaSel g).2 = false
    · rw [if_pos hsel]; exact ih'
    · rw [if_neg hsel]
      rcases hg with h1 | h1
      · exact absurd h1 hsel
      · rw [h1]; exact ih'

/-- **single_part_match_excludes**: a one-part pattern that selects schemas and matches the name
removes the schema, whatever patterns follow. -/
theorem single_part_match_excludes (s : Schema) (g : List Text) (gs : List (List Text))
    (h1 : g.length = 1) (hsel : (schemaSel g).2 = true)
    (hm : gmatch (schemaSel g).1 s.name = .ok true) :
    excludeSchemaGlobs (g :: gs) s = .ok none := by
  unfold excludeSchemaGlobs
  rw [if_neg (by omega), if_neg (by simp [hsel]), hm]
  simp [h1]

/-- **excludeRealm_names_sublist**: the schemas of the result are schemas of the input, in order
(identified by name). -/
theorem excludeRealm_names_sublist (globs : List (List Text)) (r r' : Realm) (h : excludeRealm globs r = .ok r') :
    (r'.map Schema.name).Sublist (r.map Schema.name) :=
  keepE_sublist Schema.name (fun s _ s' hs => (excludeSchemaGlobs_sub globs s s' hs).1)
    (excludeRealm_eq_keepE globs r ▸ h)

theorem excludeRealm_length_le (globs : List (List Text)) :
    ∀ (r r' : Realm), excludeRealm globs r = .ok r' → r'.length ≤ r.length := by
  intro r r' h
  simpa only [List.length_map] using (excludeRealm_names_sublist globs r r' h).length_le

/-- the table glob of a two-part pattern and whether its selector allows tables. -/
def tableSel (g : List Text) : Text × Bool := excludeType "table".toList ((g.drop 1).headD [])

/-- **table_excluded_absent**: no schema of the result holds a table that a pattern `schema.table` (selectors
allowing) matches together with its schema: the excluded tables are absent from what the differ and the planner
are given. -/
theorem table_excluded_absent (globs : List (List Text)) (r r' : Realm) (h : excludeRealm globs r = .ok r')
    (g : List Text) (hg : g ∈ globs) (hlen : g.length = 2) (hss : (schemaSel g).2 = true) (hts : (tableSel g).2 = true) :
    ∀ s' ∈ r', gmatch (schemaSel g).1 s'.name = .ok true →
      ∀ t' ∈ s'.tables, gmatch (tableSel g).1 t'.name = .ok false := by
  intro s' hs' hm t' ht'
  obtain ⟨s, _, hsg⟩ := excludeRealm_mem globs r r' h s' hs'
  -- at its turn the pattern met this name and removed every table it matches; later ones only remove more
  obtain ⟨s0, s1, hn, hstep, hsub⟩ := excludeSchemaGlobs_at hsg g hg
  rw [hn] at hm
  rcases hstep with ⟨_, h0 | h0⟩ | ⟨_, _, _, hs1⟩
  · rw [hss] at h0; cases h0
  · rw [hm] at h0; cases h0
  · obtain ⟨g1, hg1⟩ := List.length_eq_one_iff.mp (show (g.drop 1).length = 1 by rw [List.length_drop, hlen])
    unfold tableSel at hts ⊢
    rw [hg1] at hs1 hts ⊢
    obtain ⟨t1, ht1, hname⟩ := hsub t' ht'
    rw [hname]
    exact excludeS_single s0 g1 s1 hs1 hts t1 ht1

/-- **schema_excluded_absent**: no schema of the result is matched by a one-part pattern that selects schemas. -/
theorem schema_excluded_absent (globs : List (List Text)) (r r' : Realm) (h : excludeRealm globs r = .ok r')
    (g : List Text) (hg : g ∈ globs) (hlen : g.length = 1) (hss : (schemaSel g).2 = true) :
    ∀ s' ∈ r', gmatch (schemaSel g).1 s'.name ≠ .ok true := by
  intro s' hs' hm
  obtain ⟨s, _, hsg⟩ := excludeRealm_mem globs r r' h s' hs'
  -- a schema survives the pattern's turn unmatched, or matched by a longer pattern
  obtain ⟨s0, s1, hn, hstep, _⟩ := excludeSchemaGlobs_at hsg g hg
  rw [hn] at hm
  rcases hstep with ⟨_, h0 | h0⟩ | ⟨_, _, hne, _⟩
  · rw [hss] at h0; cases h0
  · rw [hm] at h0; cases h0
  · exact hne hlen

/-- **excluded_never_added**: every table of the result is (by name) a table of the same-named input
schema: exclusion never invents or renames a resource. -/
theorem excluded_never_added (globs : List (List Text)) (r r' : Realm) (h : excludeRealm globs r = .ok r') :
    ∀ s' ∈ r', ∃ s ∈ r, s'.name = s.name ∧ ∀ t' ∈ s'.tables, ∃ t ∈ s.tables, t'.name = t.name := by
  intro s' hs'
  obtain ⟨s, hs, hsg⟩ := excludeRealm_mem globs r r' h s' hs'
  obtain ⟨hn, ht⟩ := excludeSchemaGlobs_sub globs s s' hsg
  exact ⟨s, hs, hn, ht⟩

/-- non-vacuity: `main.tmp_*` between two other patterns; the hypotheses of `table_excluded_absent` hold and
the table `tmp_a` is gone while `users` stays. -/
def exRealm : Realm := [{ name := "main".toList, tables := [{ name := "users".toList }, { name := "tmp_a".toList }] }]
def exGlobs : List (List Text) := [["other".toList], ["main".toList, "tmp_*".toList], ["main".toList, "users".toList, "c*".toList]]

example : (excludeRealm exGlobs exRealm).toOption =
    some [{ name := "main".toList, tables := [{ name := "users".toList }] }] := by decide +kernel
example : (["main".toList, "tmp_*".toList] : List Text) ∈ exGlobs ∧
    (schemaSel ["main".toList, "tmp_*".toList]).2 = true ∧ (tableSel ["main".toList, "tmp_*".toList]).2 = true ∧
    (gmatch (schemaSel ["main".toList, "tmp_*".toList]).1 "main".toList).toOption = some true ∧
    (gmatch (tableSel ["main".toList, "tmp_*".toList]).1 "tmp_a".toList).toOption = some true := by decide +kernel

def t1 : Table :=
  { name := "t1".toList, columns := ["c1".toList, "c2".toList, "id".toList],
    indexes := [{ name := "i1".toList, cols := ["c1".toList] }, { name := "i2".toList, cols := ["id".toList] }],
    fks := [], checks := ["k1".toList] }

/-- `c[12]` removes c1 and c2, and the index built on c1 goes with it. -/
example : (excludeT t1 "c[12]".toList).toOption.map (fun t => (t.columns, t.indexes.map (·.name))) =
    some (["id".toList], ["i2".toList]) := by decide +kernel

/-- with the selector `[type=column]` the dependent index stays. -/
example : (excludeT t1 "c[12][type=column]".toList).toOption.map (fun t => (t.columns, t.indexes.map (·.name))) =
    some (["id".toList], ["i1".toList, "i2".toList]) := by decide +kernel

/-- a malformed child pattern is an error (it used to wipe the table silently). -/
example : (excludeT t1 "c[".toList).toOption = none := by decide +kernel

/-! ### skipped change kinds (`DiffOptions.AddOrSkip`) -/

/-- `AddOrSkip(changes, cs...)` with change kinds as tags: appends the changes that are not skipped. -/
def addOrSkip {κ : Type} [DecidableEq κ] (skip : List κ) (kind : α → κ) (changes : List α) (cs : List α) : List α :=
  changes ++ cs.filter (fun c => !skip.contains (kind c))

/-- **skip_sound**: a list that contains no skipped kind still contains none after `AddOrSkip`. -/
theorem skip_sound {α κ : Type} [DecidableEq κ] (skip : List κ) (kind : α → κ) (changes cs : List α)
    (h : ∀ c ∈ changes, kind c ∉ skip) : ∀ c ∈ addOrSkip skip kind changes cs, kind c ∉ skip := by
  intro c hc
  unfold addOrSkip at hc
  rcases List.mem_append.mp hc with h1 | h1
  · exact h c h1
  · have := (List.mem_filter.mp h1).2
    simpa using this

/-- **skip_complete**: every change that is not skipped is added, in order. -/
theorem skip_complete {α κ : Type} [DecidableEq κ] (skip : List κ) (kind : α → κ) (changes cs : List α) :
    addOrSkip skip kind changes cs = changes ++ cs.filter (fun c => kind c ∉ skip) := by
  unfold addOrSkip
  congr 1
  apply List.filter_congr
  intro c _
  simp

section Skip
open Atlas.Diff

/-- second disjunct: the two constructors that carry no sub-changes to filter. -/
theorem skipC_eq_some (sk : List Kind) (c c' : Change) :
    skipC sk c = some c' ↔ sk.contains c.kind = false ∧
      ((∃ n subs, c = .modifyTable n subs ∧ skipT sk subs ≠ [] ∧ c' = .modifyTable n (skipT sk subs)) ∨
       ((∀ n subs, c ≠ .modifyTable n subs) ∧ c' = c)) := by
  cases c with
  | modifyTable n subs =>
    -- `skipC` is defined by overlapping patterns: state the arm
    show (if (skipT sk subs).isEmpty || sk.contains Kind.modifyTable then none
      else some (Change.modifyTable n (skipT sk subs))) = some c' ↔ _
    rw [ite_none_eq_some, Bool.or_eq_true, not_or, List.isEmpty_iff, Bool.not_eq_true]
    constructor
    · rintro ⟨⟨hne, hk⟩, rfl⟩
      exact ⟨hk, .inl ⟨n, subs, rfl, hne, rfl⟩⟩
    · rintro ⟨hk, ⟨n', subs', he, hne, rfl⟩ | ⟨hnm, _⟩⟩
      · cases he; exact ⟨⟨hne, hk⟩, rfl⟩
      · exact absurd rfl (hnm n subs)
  | dropTable n => simp [skipC, Change.kind, @eq_comm _ c']
  | addTable n => simp [skipC, Change.kind, @eq_comm _ c']

/-- **skip_nested_sound**: no reported change is of a skipped kind, at the top level or inside a table
modification, and no table modification is empty. -/
theorem skip_nested_sound (sk : List Kind) (frm to : List Atlas.Diff.Table) (c : Atlas.Diff.Change)
    (hc : c ∈ schemaDiffSkip sk frm to) :
    sk.contains c.kind = false ∧
    ∀ n subs, c = .modifyTable n subs → subs ≠ [] ∧ ∀ s ∈ subs, sk.contains s.kind = false := by
  obtain ⟨c0, _, h0⟩ := List.mem_filterMap.mp hc
  obtain ⟨hk, ⟨n, subs, rfl, hne, rfl⟩ | ⟨hnm, rfl⟩⟩ := (skipC_eq_some sk c0 c).mp h0
  · refine ⟨hk, fun n' subs' he => ?_⟩
    cases he
    exact ⟨hne, fun s hs => by simpa using (List.mem_filter.mp hs).2⟩
  · exact ⟨hk, fun n subs he => absurd he (hnm n subs)⟩

/-- **skip_nested_complete**: every change of an unskipped kind that the unrestricted diff reports is
still reported: a table addition / drop as it is. -/
theorem skip_nested_complete (sk : List Kind) (frm to : List Atlas.Diff.Table) (c : Atlas.Diff.Change)
    (hc : c ∈ schemaDiff frm to) (hk : sk.contains c.kind = false) :
    (∀ n subs, c ≠ .modifyTable n subs) → c ∈ schemaDiffSkip sk frm to := fun hnm =>
  List.mem_filterMap.mpr ⟨c, hc, (skipC_eq_some ..).mpr ⟨hk, .inr ⟨hnm, rfl⟩⟩⟩

/-- … and a sub-change inside the modification of its table, unless table modifications are skipped altogether. -/
theorem skip_nested_complete_sub (sk : List Kind) (frm to : List Atlas.Diff.Table) (n : Nat) (subs : List TChange)
    (hc : Change.modifyTable n subs ∈ schemaDiff frm to) (hm : sk.contains Kind.modifyTable = false)
    (s : TChange) (hs : s ∈ subs) (hk : sk.contains s.kind = false) :
    ∃ subs', Change.modifyTable n subs' ∈ schemaDiffSkip sk frm to ∧ s ∈ subs' ∧ subs' = skipT sk subs := by
  have hmem : s ∈ skipT sk subs := List.mem_filter.mpr ⟨hs, by simpa using hk⟩
  exact ⟨_, List.mem_filterMap.mpr ⟨_, hc, (skipC_eq_some ..).mpr
    ⟨hm, .inl ⟨n, subs, rfl, List.ne_nil_of_mem hmem, rfl⟩⟩⟩, hmem, rfl⟩

/-- **skip_nothing**: an empty skip list changes nothing, for a list that holds no empty table modification. -/
theorem skip_nothing (cs : List Atlas.Diff.Change) (hne : ∀ n, Change.modifyTable n [] ∉ cs) : skipDiff [] cs = cs := by
  have hT : ∀ subs, skipT [] subs = subs := fun subs => by simp [skipT]
  have : ∀ c ∈ cs, skipC [] c = some c := fun c hc => (skipC_eq_some ..).mpr ⟨rfl, by
    cases c with
    | modifyTable n subs => exact .inl ⟨n, subs, rfl, by rw [hT]; rintro rfl; exact hne n hc, by rw [hT]⟩
    | dropTable n => exact .inr ⟨fun _ _ h => (nomatch h), rfl⟩
    | addTable n => exact .inr ⟨fun _ _ h => (nomatch h), rfl⟩⟩
  unfold skipDiff
  rw [filterMap_congr this, List.filterMap_some]

open Atlas.Diff in
example : schemaDiffSkip [.addColumn, .dropTable]
    [{ name := 1, cols := [⟨1, [0]⟩] }, { name := 2, cols := [] }]
    [{ name := 1, cols := [⟨1, [0]⟩, ⟨2, [0]⟩], idxs := [⟨some 1, false, false, [⟨1, false, 0⟩], 0⟩] }] =
    [.modifyTable 1 [.addIndex ⟨some 1, false, false, [⟨1, false, 0⟩], 0⟩]] := by decide +kernel

theorem skipT_idem (sk : List Kind) (cs : List TChange) : skipT sk (skipT sk cs) = skipT sk cs := by
  simp [skipT, List.filter_filter]

/-- **skip_idempotent**: what is left holds no skipped kind and no emptied table modification, so filtering again
with the same skip list changes nothing. -/
theorem skip_idempotent (sk : List Kind) : ∀ (cs : List Change), skipDiff sk (skipDiff sk cs) = skipDiff sk cs := by
  intro cs
  unfold skipDiff
  rw [List.filterMap_filterMap]
  refine filterMap_congr fun c _ => ?_
  cases hc : skipC sk c with
  | none => rfl
  | some c' =>
    show skipC sk c' = some c'
    obtain ⟨hk, ⟨n, subs, rfl, hne, rfl⟩ | ⟨hnm, rfl⟩⟩ := (skipC_eq_some sk c c').mp hc
    · exact (skipC_eq_some ..).mpr ⟨hk, .inl ⟨n, _, rfl, by rwa [skipT_idem], by rw [skipT_idem]⟩⟩
    · exact (skipC_eq_some ..).mpr ⟨hk, .inr ⟨hnm, rfl⟩⟩

theorem skip_length_le (sk : List Kind) (cs : List Change) : (skipDiff sk cs).length ≤ cs.length :=
  List.length_filterMap_le ..

end Skip

end Props.C19

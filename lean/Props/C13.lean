/-
C13 — Failure atomicity follows the transaction mode; dry-run changes nothing.

Model: `Atlas.Tx` with failing statements (`ok = false`): `planFiles` = `migrateApplyRun`'s loop with
`tx.driverFor / mayRollback / mayCommit / commit`, `fileOps` = the write order of `Executor.Execute`,
`schemaApply` = `applyChanges` of `schema apply` in its default mode. Plans, final states and the state
after fix-and-re-run are compared with the real binary by the correspondence run.

Proved for every directory `good ++ bad :: rest` (any sizes; `good` succeeds, statement `j` of `bad`
fails, no txmode directives), every number `t0 ≤ |good|` of files applied by earlier runs:
* `fail_file_mode` — the database and the revision table are exactly as after the last completely
  applied file (`after dir |good|`), and the command fails (no `fixed` hypothesis: either `mayCommit`);
* `fail_all_mode` — exactly as before the command;
* `fail_none_mode` — exactly the successful prefix, recorded as such with the error;
* `fix_and_rerun_file / _all / _none` — after replacing the failing file by a succeeding one with the
  same number of statements (the files behind it succeeding too), the same command reaches the database of a
  run that never failed.

* `fail_mixed` — directories whose files carry `-- atlas:txmode` directives (any mix of `file` and `none`
  files, by the global mode or per file, repaired `mayCommit`: `cfg.fixed = true`): the outcome follows the
  mode of the FAILING file — rolled back to the last completely applied file if it runs in its own
  transaction, the successful prefix recorded with the error if it runs without one; `fix_and_rerun_mixed` —
  after repairing the file the same command reaches the database of a never-failing run, in both cases;
* `fail_file_mode_count / fail_all_mode_count / fail_none_mode_count`, `count_stops_before_failure` — the
  apply-count argument: when the failing file is among the `n` files to apply the outcome is the one
  above; when the `n` files end before it the command succeeds, applies exactly `n` files and does not
  touch the failing file;
* `dry_run_identity` — with `--dry-run` the command performs no database operation;
* `schema_apply_all_or_nothing` — `schema apply`: every statement's effect, or the database unchanged;
  `schema_apply_failure_changes_nothing`, `schema_apply_success_runs_all` — its two cases.

For ANY directory - failing statements anywhere, any count, any revision table:
* `fail_all_mode_any` — `--tx-mode all`, `txmode` directives of any kind (this mode rejects each of them): a
  command that fails leaves the database exactly as it found it; `all_mode_ok_no_directive` — one that
  succeeds met no directive;
* `fail_file_mode_any` — `--tx-mode file`, no directives: whether the command fails or not, the database is that
  of a complete, successful run over the first `t` pending files for some `t` - the failing file left nothing
  behind (stated with `cfg.fixed = true`, as `Props.C10.crash_file_any`, see there);
* `fail_none_mode_any` — `--tx-mode none`, no directives: whether the command fails or not, the database holds
  exactly the operations it performed, in order - nothing is rolled back.

PARTIAL: a per-file directive `all` under `--tx-mode file / none` (rejected by `modeFor`) is covered by the
correspondence run only; the pinned-tree `mayCommit` (`fixed = false`) on a directive mix (only the `_mixed`
theorems and `fail_file_mode_any` assume `fixed = true`) by the correspondence run and the `decide`d instance at
the end of the file, not by general theorems; `dry_run_identity` speaks about the operations of the apply loop: the
bootstrap of the revision table, which the real command performs before the loop even under `--dry-run`, is
outside the model and reported by the correspondence run (known finding).
-/
import Props.C10

namespace Props.C13
open Atlas.Tx Props.C10

/-- the shape of the directory: `good` files, the failing file, the rest. -/
structure FailDir (good : List TFile) (bad : TFile) (j : Nat) : Prop where
  good : AllOk good
  bad : bad.FailsAt j

theorem after_append_left {good x : List TFile} {t : Nat} (ht : t ≤ good.length) :
    after (good ++ x) t = after good t := by
  unfold after; rw [List.take_append_of_le_length ht]

theorem after_revs_length_append_left (good x : List TFile) (t : Nat) (ht : t ≤ good.length) :
    (after (good ++ x) t).revs.length = t :=
  after_revs_length _ t (by rw [List.length_append]; omega)

theorem applyFiles_after_append_left (good x : List TFile) (t0 : Nat) (ht : t0 ≤ good.length) :
    applyFiles (after (good ++ x) t0) (good.drop t0) = after (good ++ x) good.length := by
  rw [after_append_left ht, after_append_left (Nat.le_refl _)]
  exact after_drop good t0

/-- no count, or one that reaches the failing file (`hc`). `fail_file_mode`, `fail_none_mode`, `fail_mixed` and the
`_count` versions are this statement. -/
theorem fail_good (cfg : Cfg) (hd : cfg.dryRun = false)
    (good : List TFile) (bad : TFile) (j : Nat) (rest : List TFile) (hg : Good cfg good) (hb : Apart cfg bad)
    (hbad : bad.ok[j]? = some false) (hgood : ∀ i, i < j → bad.ok[i]? = some true)
    (t0 : Nat) (ht0 : t0 ≤ good.length) (hc : ∀ n, cfg.count = some n → good.length < t0 + n) :
    let dir := good ++ bad :: rest
    runAll (after dir t0) (plan cfg dir (after dir t0)).1 =
      (if modeFor cfg bad = some .file then after dir good.length
       else failedFile (after dir good.length) j bad.ok.length) ∧
    (plan cfg dir (after dir t0)).2 = false := by
  intro dir
  have hl := after_revs_length_append_left good (bad :: rest) t0 ht0
  obtain ⟨rest', hcut⟩ := limit_reaches bad rest ht0 hc
  obtain ⟨hfail, hrun⟩ := planFiles_good_fail (db := after dir t0) rest'
    (hg.of_subset (List.drop_subset ..)) hb hbad hgood hl (Nat.le_of_eq hl)
  rw [plan_after cfg hd dir t0 (by simp [dir]; omega), hcut, hrun, applyFiles_after_append_left good _ t0 ht0]
  exact ⟨rfl, hfail⟩

theorem fail_file_mode (cfg : Cfg) (hm : cfg.mode = .file) (hc : cfg.count = none) (hd : cfg.dryRun = false)
    (good : List TFile) (bad : TFile) (j : Nat) (rest : List TFile) (h : FailDir good bad j)
    (t0 : Nat) (ht0 : t0 ≤ good.length) :
    let dir := good ++ bad :: rest
    runAll (after dir t0) (plan cfg dir (after dir t0)).1 = after dir good.length ∧
    (plan cfg dir (after dir t0)).2 = false := by
  obtain ⟨h1, h2⟩ := fail_good cfg hd good bad j rest (Good.of_allOk (Or.inl hm) h.good)
    (Apart.of_nodir h.bad.nodir (Or.inl hm)) h.bad.bad h.bad.good t0 ht0 (by simp [hc])
  exact ⟨by rw [h1, if_pos (modeFor_nodir h.bad.nodir hm)], h2⟩

/-- the command fails since `Execute` fails on `bad`, and a failed command in mode `all` has changed nothing. -/
theorem fail_all (cfg : Cfg) (hm : cfg.mode = .all) (hd : cfg.dryRun = false)
    (good : List TFile) (bad : TFile) (j : Nat) (rest : List TFile) (h : FailDir good bad j)
    (t0 : Nat) (ht0 : t0 ≤ good.length) (hc : ∀ n, cfg.count = some n → good.length < t0 + n) :
    let dir := good ++ bad :: rest
    runAll (after dir t0) (plan cfg dir (after dir t0)).1 = after dir t0 ∧
    (plan cfg dir (after dir t0)).2 = false := by
  intro dir
  have hfail : (plan cfg dir (after dir t0)).2 = false := by
    have hl := after_revs_length_append_left good (bad :: rest) t0 ht0
    obtain ⟨rest', hcut⟩ := limit_reaches bad rest ht0 hc
    rw [plan_after cfg hd dir t0 (by simp [dir]; omega), hcut, ← Bool.not_eq_true]
    intro hok
    have := planFiles_ok_files hok (i := (good.drop t0).length) (f := bad) (by simp)
    rw [fileOps_fresh_fail_flag h.bad.bad h.bad.good (Nat.le_trans (Nat.le_of_eq hl) (Nat.le_add_right ..))] at this
    cases this
  exact ⟨plan_all_fail_any cfg hm dir _ hfail, hfail⟩

theorem fail_all_mode (cfg : Cfg) (hm : cfg.mode = .all) (hc : cfg.count = none) (hd : cfg.dryRun = false)
    (good : List TFile) (bad : TFile) (j : Nat) (rest : List TFile) (h : FailDir good bad j)
    (t0 : Nat) (ht0 : t0 ≤ good.length) :
    let dir := good ++ bad :: rest
    runAll (after dir t0) (plan cfg dir (after dir t0)).1 = after dir t0 ∧
    (plan cfg dir (after dir t0)).2 = false :=
  fail_all cfg hm hd good bad j rest h t0 ht0 (by simp [hc])

theorem fail_none_mode (cfg : Cfg) (hm : cfg.mode = .none) (hc : cfg.count = none) (hd : cfg.dryRun = false)
    (good : List TFile) (bad : TFile) (j : Nat) (rest : List TFile) (h : FailDir good bad j)
    (t0 : Nat) (ht0 : t0 ≤ good.length) :
    let dir := good ++ bad :: rest
    runAll (after dir t0) (plan cfg dir (after dir t0)).1 = failedFile (after dir good.length) j bad.ok.length ∧
    (plan cfg dir (after dir t0)).2 = false := by
  obtain ⟨h1, h2⟩ := fail_good cfg hd good bad j rest (Good.of_allOk (Or.inr hm) h.good)
    (Apart.of_nodir h.bad.nodir (Or.inr hm)) h.bad.bad h.bad.good t0 ht0 (by simp [hc])
  exact ⟨by rw [h1, if_neg (by rw [modeFor_nodir h.bad.nodir hm]; simp)], h2⟩

/-! ### fixing the file and running again -/

/-- the repaired directory: the failing file replaced by a succeeding one of the same length. -/
structure Fixed (bad bad' : TFile) (rest : List TFile) : Prop where
  ok : bad'.AllOk
  len : bad'.ok.length = bad.ok.length
  rest : AllOk rest

theorem allOk_fixed {good : List TFile} {bad bad' : TFile} {j : Nat} {rest : List TFile}
    (h : FailDir good bad j) (hf : Fixed bad bad' rest) : AllOk (good ++ bad' :: rest) := by
  intro f hmem
  rcases List.mem_append.mp hmem with hm | hm
  · exact h.good f hm
  · rcases List.mem_cons.mp hm with rfl | hm
    · exact hf.ok
    · exact hf.rest f hm

/-- the same command after the repair, from the state a failure WITHOUT transaction left: `Execute` resumes the
repaired file behind the recorded statements. -/
theorem rerun_failed (cfg : Cfg) (hc : cfg.count = none) (hd : cfg.dryRun = false) (good : List TFile)
    (bad' : TFile) (rest : List TFile) (hg : Good cfg (good ++ bad' :: rest)) (j : Nat) (hj : j < bad'.ok.length) :
    let dir' := good ++ bad' :: rest
    runAll (failedFile (after dir' good.length) j bad'.ok.length)
      (plan cfg dir' (failedFile (after dir' good.length) j bad'.ok.length)).1 = after dir' dir'.length := by
  intro dir'
  have hl : (after dir' good.length).revs.length = good.length := after_revs_length_append_left good _ _ (Nat.le_refl _)
  have hdrop : dir'.drop good.length = bad' :: rest := by simp [dir']
  unfold failedFile
  rw [plan_resume hc hd _ true (by rw [hl]; exact hdrop) hj
      (hg.of_subset (List.subset_append_right ..)), ← after_drop dir' good.length, hdrop, applyFiles]
  congr 1
  simp [applyFile, range_append_range' (Nat.le_of_lt hj)]

theorem fix_and_rerun_file (cfg : Cfg) (hm : cfg.mode = .file) (hc : cfg.count = none) (hd : cfg.dryRun = false)
    (good : List TFile) (bad bad' : TFile) (j : Nat) (rest : List TFile) (h : FailDir good bad j)
    (hf : Fixed bad bad' rest) (t0 : Nat) (ht0 : t0 ≤ good.length) :
    let dir := good ++ bad :: rest
    let dir' := good ++ bad' :: rest
    let c := runAll (after dir t0) (plan cfg dir (after dir t0)).1
    runAll c (plan cfg dir' c).1 = after dir' dir'.length := by
  intro dir dir' c
  have hc' : c = after dir' good.length := by
    show runAll _ _ = _
    rw [(fail_file_mode cfg hm hc hd good bad j rest h t0 ht0).1, after_append_left (Nat.le_refl _), after_append_left (Nat.le_refl _)]
  rw [hc']
  exact rerun_file_all cfg (Or.inl hm) hc hd dir' (allOk_fixed h hf) good.length (by simp [dir'])

theorem fix_and_rerun_all (cfg : Cfg) (hm : cfg.mode = .all) (hc : cfg.count = none) (hd : cfg.dryRun = false)
    (good : List TFile) (bad bad' : TFile) (j : Nat) (rest : List TFile) (h : FailDir good bad j)
    (hf : Fixed bad bad' rest) (t0 : Nat) (ht0 : t0 ≤ good.length) :
    let dir := good ++ bad :: rest
    let dir' := good ++ bad' :: rest
    let c := runAll (after dir t0) (plan cfg dir (after dir t0)).1
    runAll c (plan cfg dir' c).1 = after dir' dir'.length := by
  intro dir dir' c
  have hc' : c = after dir' t0 := by
    show runAll _ _ = _
    rw [(fail_all_mode cfg hm hc hd good bad j rest h t0 ht0).1, after_append_left ht0, after_append_left ht0]
  rw [hc']
  exact rerun_file_all cfg (Or.inr hm) hc hd dir' (allOk_fixed h hf) t0 (by simp [dir']; omega)

theorem fix_and_rerun_none (cfg : Cfg) (hm : cfg.mode = .none) (hc : cfg.count = none) (hd : cfg.dryRun = false)
    (good : List TFile) (bad bad' : TFile) (j : Nat) (rest : List TFile) (h : FailDir good bad j)
    (hf : Fixed bad bad' rest) (t0 : Nat) (ht0 : t0 ≤ good.length) :
    let dir := good ++ bad :: rest
    let dir' := good ++ bad' :: rest
    let c := runAll (after dir t0) (plan cfg dir (after dir t0)).1
    runAll c (plan cfg dir' c).1 = after dir' dir'.length := by
  intro dir dir' c
  have hc' : c = failedFile (after dir' good.length) j bad'.ok.length := by
    show runAll _ _ = _
    rw [(fail_none_mode cfg hm hc hd good bad j rest h t0 ht0).1, after_append_left (Nat.le_refl _),
      after_append_left (Nat.le_refl _), hf.len]
  rw [hc']
  exact rerun_failed cfg hc hd good bad' rest (Good.of_allOk (Or.inr hm) (allOk_fixed h hf)) j
    (by rw [hf.len]; exact h.bad.lt)

/-! ### directories with `-- atlas:txmode` directives -/

/-- `good` files succeed, statement `j` of `bad` fails; every file runs in `file` or `none` mode, by
the global mode or by its own directive. -/
structure MixedFailDir (cfg : Cfg) (good : List TFile) (bad : TFile) (j : Nat) : Prop where
  good : MixedOk cfg good
  bad : bad.FailsIn cfg j

theorem fail_mixed (cfg : Cfg) (hfix : cfg.fixed = true) (hc : cfg.count = none) (hd : cfg.dryRun = false)
    (good : List TFile) (bad : TFile) (j : Nat) (rest : List TFile) (h : MixedFailDir cfg good bad j)
    (t0 : Nat) (ht0 : t0 ≤ good.length) :
    let dir := good ++ bad :: rest
    runAll (after dir t0) (plan cfg dir (after dir t0)).1 =
      (if modeFor cfg bad = some .file then after dir good.length
       else failedFile (after dir good.length) j bad.ok.length) ∧
    (plan cfg dir (after dir t0)).2 = false :=
  fail_good cfg hd good bad j rest (Good.of_okIn hfix h.good) (Apart.of_fixed hfix h.bad.mode)
    h.bad.bad h.bad.good t0 ht0 (by simp [hc])

/-- the repaired directive mix: the failing file replaced by a succeeding one with the same number of
statements and the same directive; the files behind it succeed. -/
structure MixedFixed (cfg : Cfg) (bad bad' : TFile) (rest : List TFile) : Prop where
  ok : ∀ b ∈ bad'.ok, b = true
  len : bad'.ok.length = bad.ok.length
  dir : bad'.directive = bad.directive
  rest : MixedOk cfg rest

theorem mixedOk_fixed {cfg : Cfg} {good : List TFile} {bad bad' : TFile} {j : Nat} {rest : List TFile}
    (h : MixedFailDir cfg good bad j) (hf : MixedFixed cfg bad bad' rest) : MixedOk cfg (good ++ bad' :: rest) := by
  have hmode : modeFor cfg bad' = modeFor cfg bad := by simp [modeFor, hf.dir]
  intro f hmem
  rcases List.mem_append.mp hmem with hm | hm
  · exact h.good f hm
  · rcases List.mem_cons.mp hm with rfl | hm
    · exact ⟨hf.ok, by rw [hmode]; exact h.bad.mode⟩
    · exact hf.rest f hm

theorem fix_and_rerun_mixed (cfg : Cfg) (hfix : cfg.fixed = true) (hc : cfg.count = none) (hd : cfg.dryRun = false)
    (good : List TFile) (bad bad' : TFile) (j : Nat) (rest : List TFile) (h : MixedFailDir cfg good bad j)
    (hf : MixedFixed cfg bad bad' rest) (t0 : Nat) (ht0 : t0 ≤ good.length) :
    let dir := good ++ bad :: rest
    let dir' := good ++ bad' :: rest
    let c := runAll (after dir t0) (plan cfg dir (after dir t0)).1
    runAll c (plan cfg dir' c).1 = after dir' dir'.length := by
  intro dir dir' c
  have hg : after dir good.length = after dir' good.length := by
    rw [after_append_left (Nat.le_refl _), after_append_left (Nat.le_refl _)]
  have hok' := mixedOk_fixed h hf
  have hc' : c = if modeFor cfg bad = some .file then after dir' good.length
      else failedFile (after dir' good.length) j bad'.ok.length := by
    show runAll _ _ = _
    rw [(fail_mixed cfg hfix hc hd good bad j rest h t0 ht0).1, hg, hf.len]
  rw [hc']
  split
  · exact (run_mixed cfg hfix hc hd dir' hok' good.length (by simp [dir'])).1
  · exact rerun_failed cfg hc hd good bad' rest (Good.of_okIn hfix hok') j (by rw [hf.len]; exact h.bad.lt)

/-! ### the apply-count argument -/

theorem fail_file_mode_count (cfg : Cfg) (hm : cfg.mode = .file) (n : Nat) (hc : cfg.count = some n)
    (hd : cfg.dryRun = false)
    (good : List TFile) (bad : TFile) (j : Nat) (rest : List TFile) (h : FailDir good bad j)
    (t0 : Nat) (ht0 : t0 ≤ good.length) (hn : good.length < t0 + n) :
    let dir := good ++ bad :: rest
    runAll (after dir t0) (plan cfg dir (after dir t0)).1 = after dir good.length ∧
    (plan cfg dir (after dir t0)).2 = false := by
  obtain ⟨h1, h2⟩ := fail_good cfg hd good bad j rest (Good.of_allOk (Or.inl hm) h.good)
    (Apart.of_nodir h.bad.nodir (Or.inl hm)) h.bad.bad h.bad.good t0 ht0 (by simpa [hc] using hn)
  exact ⟨by rw [h1, if_pos (modeFor_nodir h.bad.nodir hm)], h2⟩

theorem fail_all_mode_count (cfg : Cfg) (hm : cfg.mode = .all) (n : Nat) (hc : cfg.count = some n)
    (hd : cfg.dryRun = false)
    (good : List TFile) (bad : TFile) (j : Nat) (rest : List TFile) (h : FailDir good bad j)
    (t0 : Nat) (ht0 : t0 ≤ good.length) (hn : good.length < t0 + n) :
    let dir := good ++ bad :: rest
    runAll (after dir t0) (plan cfg dir (after dir t0)).1 = after dir t0 ∧
    (plan cfg dir (after dir t0)).2 = false :=
  fail_all cfg hm hd good bad j rest h t0 ht0 (by simpa [hc] using hn)

theorem fail_none_mode_count (cfg : Cfg) (hm : cfg.mode = .none) (n : Nat) (hc : cfg.count = some n)
    (hd : cfg.dryRun = false)
    (good : List TFile) (bad : TFile) (j : Nat) (rest : List TFile) (h : FailDir good bad j)
    (t0 : Nat) (ht0 : t0 ≤ good.length) (hn : good.length < t0 + n) :
    let dir := good ++ bad :: rest
    runAll (after dir t0) (plan cfg dir (after dir t0)).1 = failedFile (after dir good.length) j bad.ok.length ∧
    (plan cfg dir (after dir t0)).2 = false := by
  obtain ⟨h1, h2⟩ := fail_good cfg hd good bad j rest (Good.of_allOk (Or.inr hm) h.good)
    (Apart.of_nodir h.bad.nodir (Or.inr hm)) h.bad.bad h.bad.good t0 ht0 (by simpa [hc] using hn)
  exact ⟨by rw [h1, if_neg (by rw [modeFor_nodir h.bad.nodir hm]; simp)], h2⟩

theorem count_stops_before_failure (cfg : Cfg) (hm : cfg.mode = .file ∨ cfg.mode = .all) (n : Nat)
    (hc : cfg.count = some n) (hd : cfg.dryRun = false)
    (good : List TFile) (bad : TFile) (j : Nat) (rest : List TFile) (h : FailDir good bad j)
    (t0 : Nat) (hn : t0 + n ≤ good.length) :
    let dir := good ++ bad :: rest
    runAll (after dir t0) (plan cfg dir (after dir t0)).1 = after dir (t0 + n) ∧
    (plan cfg dir (after dir t0)).2 = true := by
  intro dir
  -- the `n` files to apply are files of `good`
  have hcut : limit cfg.count (dir.drop t0) = (good.drop t0).take n := by
    rw [hc, List.drop_append_of_le_length (by omega)]
    exact List.take_append_of_le_length (by rw [List.length_drop]; omega)
  have hlen : (limit cfg.count (dir.drop t0)).length = n := by
    rw [hcut, List.length_take, List.length_drop]; omega
  have := run_allOk cfg hd dir t0 (by simp [dir]; omega)
    (by rw [hcut]; exact fun f hf => h.good f (List.mem_of_mem_drop (List.mem_of_mem_take hf)))
  rwa [hlen] at this

theorem dry_run_identity (cfg : Cfg) (hd : cfg.dryRun = true) (dir : List TFile) (db : Db) :
    (plan cfg dir db).1 = [] ∧ runAll db (plan cfg dir db).1 = db := by
  simp [plan, hd, runAll, applyOps, St.crash]

theorem schema_apply_all_or_nothing (stmts : List Bool) (db : Db) :
    runAll db (schemaApply stmts) =
      if stmts.all id then { db with journal := db.journal ++ (List.range stmts.length).map (fun x => (0, x)) } else db := by
  unfold runAll schemaApply St.crash
  rw [applyOps_cons]
  show (applyOps { dur := db, work := some db } (schemaApplyOps 0 stmts)).dur = _
  rw [schemaApplyOps_effect]
  split <;> simp [List.range_eq_range']

/-- **schema_apply_failure_changes_nothing**: a failure at any position. -/
theorem schema_apply_failure_changes_nothing (stmts : List Bool) (db : Db) (h : false ∈ stmts) :
    runAll db (schemaApply stmts) = db := by
  rw [schema_apply_all_or_nothing]
  have : stmts.all id = false := by
    rw [List.all_eq_false]; exact ⟨false, h, by simp⟩
  simp [this]

theorem schema_apply_success_runs_all (stmts : List Bool) (db : Db) (h : false ∉ stmts) :
    (runAll db (schemaApply stmts)).journal = db.journal ++ (List.range stmts.length).map (fun x => (0, x)) := by
  rw [schema_apply_all_or_nothing]
  have : stmts.all id = true := by
    rw [List.all_eq_true]; intro x hx; cases x
    · exact absurd hx h
    · rfl
  simp [this]

/-! ### any directory -/

theorem fail_all_mode_any (cfg : Cfg) (hm : cfg.mode = .all) (dir : List TFile) (db : Db)
    (hf : (plan cfg dir db).2 = false) : runAll db (plan cfg dir db).1 = db :=
  plan_all_fail_any cfg hm dir db hf

theorem all_mode_ok_no_directive (cfg : Cfg) (hm : cfg.mode = .all) (hd : cfg.dryRun = false) (dir : List TFile)
    (db : Db) (hok : (plan cfg dir db).2 = true) :
    ∀ f ∈ limit cfg.count (dir.drop (pendingStart db)), f.directive = none := by
  unfold plan at hok
  simp only [hd, Bool.false_eq_true, ↓reduceIte] at hok
  exact planFiles_all_ok_directives cfg hm db _ false (pendingStart db) hok

theorem fail_file_mode_any (cfg : Cfg) (hm : cfg.mode = .file) (hfix : cfg.fixed = true) (hdr : cfg.dryRun = false)
    (dir : List TFile) (hd : ∀ f ∈ dir, f.directive = none) (db : Db) :
    ∃ t, t ≤ (limit cfg.count (dir.drop (pendingStart db))).length ∧
      (planFiles cfg db false (pendingStart db) ((limit cfg.count (dir.drop (pendingStart db))).take t)).2 = true ∧
      runAll db (plan cfg dir db).1 =
        runAll db (planFiles cfg db false (pendingStart db) ((limit cfg.count (dir.drop (pendingStart db))).take t)).1 := by
  obtain ⟨t, ht, hok, heq⟩ := plan_file_crash_any cfg hm hfix hdr dir hd db (plan cfg dir db).1.length
  refine ⟨t, ht, hok, ?_⟩
  simpa [crashAt, runAll, List.take_length] using heq

theorem fail_none_mode_any (cfg : Cfg) (hm : cfg.mode = .none) (dir : List TFile)
    (hd : ∀ f ∈ dir, f.directive = none) (db : Db) :
    runAll db (plan cfg dir db).1 = (plan cfg dir db).1.foldl durApply db := by
  have := plan_none_crash_any cfg hm dir hd db (plan cfg dir db).1.length
  simpa [crashAt, runAll, List.take_length] using this

/-! ### non-vacuity -/

def good2 : List TFile := [{ ok := [true, true] }]
def badF : TFile := { ok := [true, false, true] }

example : FailDir good2 badF 1 :=
  ⟨by intro f hf; simp [good2] at hf; subst hf; exact ⟨rfl, by simp⟩,
   ⟨rfl, by decide, by decide, by intro i hi; have : i = 0 := by omega
                                  subst this; rfl⟩⟩

/-- none mode: the first file and the first statement of the second are applied, recorded with the
error; file mode: only the first file. -/
example : runAll {} (plan { mode := .none } (good2 ++ [badF]) {}).1 =
    { journal := [(0,0),(0,1),(1,0)], revs := [⟨2,2,false⟩, ⟨1,3,true⟩] } := by decide +kernel
example : runAll {} (plan { mode := .file } (good2 ++ [badF]) {}).1 =
    { journal := [(0,0),(0,1)], revs := [⟨2,2,false⟩] } := by decide +kernel
example : runAll {} (plan { mode := .all } (good2 ++ [badF]) {}).1 = {} := by decide +kernel

/-- `fail_all_mode_any`: two good files, then a file with a directive (each kind), then another file. -/
def rejDir (m : Mode) : List TFile := [{ ok := [true, true] }, { ok := [true] }, { ok := [true], directive := some m }, { ok := [true] }]

example : ∀ m : Mode, (plan { mode := .all } (rejDir m) {}).2 = false ∧ runAll {} (plan { mode := .all } (rejDir m) {}).1 = {} := by
  intro m; cases m <;> decide +kernel
/-- the same directory without the directive commits everything at once. -/
example : (plan { mode := .all } [{ ok := [true, true] }, { ok := [true] }] {}).2 = true ∧
    runAll {} (plan { mode := .all } [{ ok := [true, true] }, { ok := [true] }] {}).1 =
      { journal := [(0,0),(0,1),(1,0)], revs := [⟨2,2,false⟩, ⟨1,1,false⟩] } := by decide +kernel

/-- a directive mix: under `--tx-mode none` the first file asks for its own transaction, and so does the
failing one: it is rolled back (`fail_mixed`, first branch); without its directive it keeps its prefix. -/
def goodM : List TFile := [{ ok := [true, true], directive := some .file }, { ok := [true] }]
def badM : TFile := { ok := [true, false, true], directive := some .file }

example : MixedFailDir { mode := .none } goodM badM 1 :=
  ⟨by intro f hf
      simp only [goodM, List.mem_cons, List.not_mem_nil, or_false] at hf
      rcases hf with rfl | rfl
      · exact ⟨by simp, Or.inl (by decide)⟩
      · exact ⟨by simp, Or.inr (by decide)⟩,
   ⟨by decide, by decide, by intro i hi; have : i = 0 := by omega
                             subst this; rfl, Or.inl (by decide)⟩⟩

example : runAll {} (plan { mode := .none } (goodM ++ [badM]) {}).1 =
    { journal := [(0,0),(0,1),(1,0)], revs := [⟨2,2,false⟩, ⟨1,1,false⟩] } := by decide +kernel
example : runAll {} (plan { mode := .none } (goodM ++ [{ badM with directive := none }]) {}).1 =
    { journal := [(0,0),(0,1),(1,0),(2,0)], revs := [⟨2,2,false⟩, ⟨1,1,false⟩, ⟨1,3,true⟩] } := by decide +kernel
/-- `migrate apply 1` / `migrate apply 2` on `good2 ++ [badF]`: one file and success; the failure. -/
example : plan { mode := .file, count := some 1 } (good2 ++ [badF]) {} = plan { mode := .file } good2 {} ∧
    (plan { mode := .file } good2 {}).2 = true := by decide +kernel
example : (plan { mode := .file, count := some 2 } (good2 ++ [badF]) {}).2 = false := by decide +kernel

/-- the pinned `mayCommit` (global mode) leaves a `txmode file` file under `--tx-mode none`
uncommitted: the next file hits "locked" and everything of that file is rolled back. -/
example :
    let dir : List TFile := [{ ok := [true], directive := some .file }, { ok := [true] }]
    (plan { mode := .none, fixed := false } dir {}).2 = false ∧
    runAll {} (plan { mode := .none, fixed := false } dir {}).1 = {} ∧
    (plan { mode := .none, fixed := true } dir {}).2 = true := by decide +kernel

end Props.C13

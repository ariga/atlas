/-
C11 — Pending-file computation follows the documented semantics for every history.

Models: `Atlas.Pending` (`pending`, `executeTo`: sql/migrate/migrate.go `Pending`, `ExecuteTo`, with the Go binary
search and the dir.go helpers); `Atlas.Clean` (`CheckClean`); `Atlas.SetV` (`atlas migrate set`);
`Atlas.Exec.executeN` / `attempts`. Directories and tables of any length.
* first run: `dirty_requires_flag`; the gates `gate_mysql`, `gate_postgres`, `gate_sqlite`, `gate_bound`,
  `first_run_refuses_user_table`, `first_run_refuses_extra_schema_mysql`; `first_run_from_last_checkpoint_only`,
  `baseline_skips_le`;
* general case: `bsearch_found`, `has_revision_iff`, `out_of_order_exact`, `order_clauses`, `pending_linear`,
  `partial_checkpoint_resumes`;
* `migrate set`: `set_agrees`, `set_then_pending`;
* every answer part of the directory: `pending_files_of_directory`, `pending_is_subsequence`,
  `pending_versions_distinct`, `pending_count_le`, `execute_to_is_subsequence`, `execute_to_stops_at_target`;
* link to C09: `linear_of_dinv`, `pending_of_dinv`, `executeN_eq_attempt`, `attempts_eq`, `executeN_reachable`.
-/
import Lemmas.Pending
import Lemmas.ExecRevs
import Lemmas.SetVersion
import Lemmas.Clean
import Props.C09

namespace Props.C11
open Atlas Atlas.Pending

/-- versions strictly increasing (what `Dir.Files()` gives when name order = version order). -/
def SortedV (fs : List MFile) : Prop := (fs.map (·.version)).Pairwise (· < ·)

/-- **dirty_requires_flag**: a first run against a database that is not clean, without `allow-dirty` and without
a baseline, is refused. -/
theorem dirty_requires_flag (cfg : Cfg) (all : List MFile) (hc : cfg.clean = false)
    (hd : cfg.allowDirty = false) (hb : cfg.baseline = "") :
    (pending cfg all []).out = .error .notClean ∧ (pending cfg all []).baselineWrite = none := by
  simp [pending, firstRun, hc, hd, hb]

section Gate
open Atlas.Clean

/-- **gate_mysql**, **gate_postgres**, **gate_sqlite**, **gate_bound**: each driver's first-run gate accepts nothing
but - possibly - the revision table in its own place (PostgreSQL: and the empty `public`); every other schema, ALSO
AN EMPTY ONE, and every other table is "not clean". -/
theorem gate_mysql (r : List Sch) (revS revT : String) (hn : (r.map (·.name)).Nodup) :
    mysqlRealmClean r revS revT = true ↔ ∀ s ∈ r, s.name = revS ∧ OnlyRev s.tables revT :=
  mysqlRealmClean_iff r revS revT hn

theorem gate_postgres (r : List Sch) (revS revT : String) :
    pgRealmClean r revS revT = true ↔
      ∀ s ∈ r, (s.tables = [] ∧ s.name = "public") ∨ (s.name = revS ∧ s.tables = [revT]) :=
  pgRealmClean_iff r revS revT

theorem gate_sqlite (r : List Sch) (revT : String) (hn : (r.map (·.name)).Nodup) :
    sqliteClean r revT = true ↔ ∀ s ∈ r, s.name = "main" ∧ OnlyRev s.tables revT :=
  sqliteClean_iff r revT hn

theorem gate_bound (s : Sch) (revS revT : String) :
    boundClean s revS revT = true ↔ s.tables = [] ∨ ((revS = "" ∨ s.name = revS) ∧ s.tables = [revT]) :=
  boundClean_iff s revS revT

/-- **first_run_refuses_user_table**: under the MySQL or PostgreSQL realm gate, a table that is not the revision
table, or stands outside the revision schema, makes the first run refuse (no `--allow-dirty`, no `--baseline`). -/
theorem first_run_refuses_user_table (cfg : Cfg) (all : List MFile) (r : List Sch) (revS revT : String)
    (hn : (r.map (·.name)).Nodup) (hd : cfg.allowDirty = false) (hb : cfg.baseline = "")
    (hgate : cfg.clean = mysqlRealmClean r revS revT ∨ cfg.clean = pgRealmClean r revS revT)
    (s : Sch) (hs : s ∈ r) (t : String) (ht : t ∈ s.tables) (huser : t ≠ revT ∨ s.name ≠ revS) :
    (pending cfg all []).out = .error .notClean ∧ (pending cfg all []).baselineWrite = none := by
  apply dirty_requires_flag cfg all _ hd hb
  -- a clean verdict of either gate would make `t` the revision table in the revision schema
  have hclean : cfg.clean = true → t = revT ∧ s.name = revS := by
    intro hc
    rcases hgate with hg | hg
    · obtain ⟨hname, hrev | hrev⟩ := (gate_mysql r revS revT hn).mp (hg ▸ hc) s hs
      · rw [hrev] at ht; cases ht
      · rw [hrev] at ht; exact ⟨List.mem_singleton.mp ht, hname⟩
    · rcases (gate_postgres r revS revT).mp (hg ▸ hc) s hs with ⟨hemp, _⟩ | ⟨hname, hrev⟩
      · rw [hemp] at ht; cases ht
      · rw [hrev] at ht; exact ⟨List.mem_singleton.mp ht, hname⟩
  cases hc : cfg.clean with
  | false => rfl
  | true => exact absurd (hclean hc) fun h => huser.elim (· h.1) (· h.2)

/-- **first_run_refuses_extra_schema_mysql**: MySQL, whole-server connection: a second database, also an empty
one, is refused. -/
theorem first_run_refuses_extra_schema_mysql (cfg : Cfg) (all : List MFile) (r : List Sch) (revS revT : String)
    (hn : (r.map (·.name)).Nodup) (hd : cfg.allowDirty = false) (hb : cfg.baseline = "")
    (hgate : cfg.clean = mysqlRealmClean r revS revT) (s : Sch) (hs : s ∈ r) (hname : s.name ≠ revS) :
    (pending cfg all []).out = .error .notClean := by
  apply (dirty_requires_flag cfg all _ hd hb).1
  rw [hgate]
  cases hc : mysqlRealmClean r revS revT with
  | false => rfl
  | true => exact absurd ((gate_mysql r revS revT hn).mp hc s hs).1 hname

/-- the decisions of the gates on small servers (the cases of the correspondence grid). -/
example : mysqlRealmClean [⟨"app", []⟩] "atlas_schema_revisions" "atlas_schema_revisions" = false ∧
    mysqlRealmClean [⟨"atlas_schema_revisions", ["atlas_schema_revisions"]⟩] "atlas_schema_revisions" "atlas_schema_revisions" = true ∧
    mysqlRealmClean [⟨"app", []⟩, ⟨"atlas_schema_revisions", []⟩] "atlas_schema_revisions" "atlas_schema_revisions" = false ∧
    pgRealmClean [⟨"public", []⟩, ⟨"app", []⟩] "atlas_schema_revisions" "atlas_schema_revisions" = false ∧
    pgRealmClean [⟨"public", []⟩, ⟨"atlas_schema_revisions", ["atlas_schema_revisions"]⟩] "atlas_schema_revisions" "atlas_schema_revisions" = true ∧
    pgRealmClean [⟨"public", ["users"]⟩] "atlas_schema_revisions" "atlas_schema_revisions" = false ∧
    boundClean ⟨"app", ["atlas_schema_revisions"]⟩ "" "atlas_schema_revisions" = true ∧
    boundClean ⟨"app", ["users"]⟩ "" "atlas_schema_revisions" = false := by decide +kernel

end Gate

/-- **first_run_from_last_checkpoint_only**: a first run (clean or allow-dirty, no baseline) returns the directory
from its LAST checkpoint file on, or all of it; nothing is written. -/
theorem first_run_from_last_checkpoint_only (cfg : Cfg) (all : List MFile)
    (hc : cfg.clean = true ∨ cfg.allowDirty = true) (hb : cfg.baseline = "") (hne : all ≠ []) :
    (pending cfg all []).baselineWrite = none ∧
    ((∀ f ∈ all, f.checkpoint = false) ∧ (pending cfg all []).out = .ok all ∨
     ∃ pre ck post, all = pre ++ ck :: post ∧ ck.checkpoint = true ∧ (∀ f ∈ post, f.checkpoint = false) ∧
       (pending cfg all []).out = .ok (ck :: post)) := by
  rw [pending_nil, firstRun_plain hc hb]
  refine ⟨rfl, ?_⟩
  show _ ∨ ∃ pre ck post, _ ∧ _ ∧ _ ∧ finish (filesFromLastCheckpoint all) = _
  rcases filesFromLastCheckpoint_cases all with ⟨hno, he⟩ | ⟨pre, ck, post, rfl, hck, hpost, he⟩ <;> rw [he]
  · exact .inl ⟨hno, by simp [finish_eq, hne]⟩
  · exact .inr ⟨pre, ck, post, rfl, hck, hpost, by simp [finish_eq]⟩

/-- **baseline_skips_le**: a first run with `--baseline v` writes the baseline revision for `v` and returns
exactly the files after `v`. -/
theorem baseline_skips_le (cfg : Cfg) (all pre post : List MFile) (b : MFile)
    (hsplit : skipCheckpoints all = pre ++ b :: post) (hb : cfg.baseline = b.version) (hne : b.version ≠ "")
    (hpost : ∀ f ∈ post, f.version ≠ b.version) :
    pending cfg all [] =
      ⟨some { version := b.version, desc := b.desc, typ := 1 },
       if post = [] then .error .noPending else .ok post⟩ := by
  have hli : lastIndex (fun f => f.version == cfg.baseline) (pre ++ b :: post) = some pre.length :=
    lastIndex_split pre (by simp [hb]) fun x hx => by simp [hb, hpost x hx]
  rw [pending_nil, hsplit, firstRun_baseline (hb ▸ hne) hli]
  simp [finish_eq]

theorem bsearch_found {α : Type} [Inhabited α] (key : α → String) (l : List α)
    (hs : (l.map key).Pairwise (· < ·)) (t : String) (i : Nat) (hi : i < l.length) (hk : key l[i] = t) :
    bsearch (fun x => decide (key x < t)) (fun x => key x == t) l = (i, true) :=
  bsearch_of_sorted hs t i hi hk

/-- **has_revision_iff**: the binary search of `outOfOrder` on a sorted revision table. -/
theorem has_revision_iff (revs : List Revision) (hs : (revs.map (·.version)).Pairwise (· < ·)) (v : String) :
    (bsearch (fun (r : Revision) => decide (r.version < v)) (fun (r : Revision) => r.version == v) revs).2 = true ↔
      v ∈ revs.map (·.version) :=
  bsearch_found_iff hs v

/-- **out_of_order_exact**: the skipped files are the files of the window `[first, idx)` without a revision, in
directory order. -/
theorem out_of_order_exact (cfg : Cfg) (migrations : List MFile) (revs : List Revision) (r0 : Revision) (idx first : Nat)
    (hs : (revs.map (·.version)).Pairwise (· < ·))
    (hf : indexFunc (fun f => decide (f.version ≥ r0.version)) (migrations.take idx) = some first)
    (hlt : first < idx) (ho : cfg.order ≠ .linearSkip) :
    outOfOrder cfg migrations revs r0 idx =
      some (((migrations.take idx).drop first).filter (fun f => decide (f.version ∉ revs.map (·.version)))) := by
  unfold outOfOrder
  rw [hf]
  have hcond : (decide (first < idx) && cfg.order != Order.linearSkip) = true := by
    simp [hlt, ho]
  simp only [hcond, if_true]
  congr 1
  apply List.filter_congr
  intro f _
  rw [Bool.eq_iff_iff, Bool.not_eq_true', ← Bool.not_eq_true, has_revision_iff revs hs, decide_eq_true_eq]

/-- **order_clauses**: with skipped (out-of-order) files, `linear` rejects, `linear-skip` ignores them, `non-linear`
runs them first. -/
theorem order_clauses (cfg : Cfg) (migrations : List MFile) (revs : List Revision) (r0 last : Revision)
    (idx0 : Nat) (s : MFile) (ss : List MFile)
    (hcomplete : last.partially = false)
    (hidx : lastIndex (fun f => decide (f.version ≤ last.version)) migrations = some idx0)
    (hskip : outOfOrder cfg migrations revs r0 (idx0 + 1) = some (s :: ss)) :
    normal cfg migrations revs r0 last =
      match cfg.order with
      | .nonLinear => finish ((s :: ss) ++ migrations.drop (idx0 + 1))
      | .linear => .error (.nonLinear (s :: ss) (migrations.drop (idx0 + 1)))
      | .linearSkip => finish (migrations.drop (idx0 + 1)) := by
  unfold normal
  simp only [hcomplete, Bool.false_eq_true, if_false, hidx, hskip]
  cases cfg.order <;> rfl

/-- a linear history: one revision per file of `pre`, of which only the LAST matters to `Pending` (not partially
applied; the inner ones may be anything, e.g. a failed file that `migrate set` stepped over), or the first file of
`rest` carries a partial revision after them. -/
structure LinearState (pre rest : List MFile) (revs : List Revision) : Prop where
  nock : ∀ f ∈ pre ++ rest, f.checkpoint = false
  sorted : SortedV (pre ++ rest)
  shape :
    (revs.map (·.version) = pre.map (·.version) ∧
      ∀ last, revs.getLast? = some last → last.partially = false) ∨
    (∃ m post rs rp, rest = m :: post ∧ revs = rs ++ [rp] ∧ rs.map (·.version) = pre.map (·.version) ∧
      rp.version = m.version ∧ rp.partially = true)

/-- **pending_linear** (never a fully applied version again; always every newer version; the partially applied
file first): in a checkpoint-free, version-sorted directory with a `LinearState` history `Pending` returns exactly
`rest`, for every execution order, or "no pending files"; it writes nothing. -/
theorem pending_linear (cfg : Cfg) (pre rest : List MFile) (revs : List Revision)
    (hb : cfg.baseline = "") (hc : cfg.clean = true) (st : LinearState pre rest revs) :
    (pending cfg (pre ++ rest) revs).baselineWrite = none ∧
    (pending cfg (pre ++ rest) revs).out = (if rest = [] then .error .noPending else .ok rest) := by
  have hspre := (pairwise_map_append.mp st.sorted).1
  rcases st.shape with ⟨hv, hcomp⟩ | ⟨m, post, rs, rp, rfl, rfl, hv, hrpv, hrpa⟩
  · cases hrl : revs.getLast? with
    | none =>
      -- no revision at all: a first run
      obtain rfl := List.getLast?_eq_none_iff.mp hrl
      obtain rfl : pre = [] := by simpa using hv.symm
      have hall : filesFromLastCheckpoint rest = rest := by
        unfold filesFromLastCheckpoint
        rw [lastIndex_eq_none.mpr (by simpa using st.nock)]
      rw [List.nil_append, pending_nil, firstRun_plain (.inl hc) hb, hall, finish_eq]
      exact ⟨rfl, rfl⟩
    | some last =>
      obtain ⟨pre', ml, rfl, hmlv⟩ := getLast?_of_map_eq hv hrl
      have hidx : lastIndex (fun f => decide (f.version ≤ last.version)) (pre' ++ [ml] ++ rest) = some pre'.length := by
        rw [List.append_assoc]
        refine lastIndex_sorted (List.append_assoc pre' [ml] rest ▸ st.sorted :) (by simp [hmlv]) fun x hx => ?_
        simpa [← hmlv] using hx
      rw [pending_of_no_checkpoint hrl (by simp) st.nock, normal_not_partial (hcomp last hrl) hidx (hv ▸ hspre) (by
          rw [List.take_left' (by simp)]
          exact fun f hf => hv ▸ List.mem_map_of_mem hf),
        List.drop_left' (by simp), finish_eq]
      exact ⟨rfl, rfl⟩
  · -- the first file of `rest` is partially applied
    have hrl : (rs ++ [rp]).getLast? = some rp := by simp
    have hidx : lastIndex (fun (f : MFile) => f.version == rp.version) (pre ++ m :: post) = some pre.length :=
      lastIndex_sorted st.sorted (by simp [hrpv]) fun x hx => by
        rw [hrpv]; exact beq_false_of_ne (String.ne_of_lt hx).symm
    have hsr : ((rs ++ [rp]).map (·.version)).Pairwise (· < ·) := by
      have : SortedV (pre ++ [m]) := (pairwise_map_append.mp (List.append_cons pre m post ▸ st.sorted)).1
      simpa [SortedV, hv, hrpv] using this
    rw [pending_of_no_checkpoint hrl (by simp) st.nock, normal_partial hrpa hidx hsr (by
        rw [List.take_left' rfl]
        exact fun f hf => by rw [List.map_append, hv]; exact List.mem_append_left _ (List.mem_map_of_mem hf)),
      List.drop_left' rfl, finish_eq]
    exact ⟨rfl, rfl⟩

/-- **partial_checkpoint_resumes**: when the last revision is partially applied and its file is a checkpoint of the
version-sorted directory, `Pending` returns that file and then every later non-checkpoint file; nothing is written. -/
theorem partial_checkpoint_resumes (cfg : Cfg) (pre post : List MFile) (ck : MFile)
    (revs : List Revision) (last : Revision)
    (hs : SortedV (pre ++ ck :: post)) (hck : ck.checkpoint = true)
    (hlast : revs.getLast? = some last) (hp : last.partially = true) (hv : last.version = ck.version) :
    pending cfg (pre ++ ck :: post) revs = ⟨none, .ok (ck :: skipCheckpoints post)⟩ := by
  have hne : (pre ++ ck :: post).isEmpty = false := by cases pre <;> rfl
  have hskip : skipCheckpoints (ck :: post) = skipCheckpoints post := by
    unfold skipCheckpoints; simp [hck]
  rw [pending_eq hlast (bsearch_of_sorted hs last.version pre.length (by simp) (by simp [hv]))]
  simp [hp, hne, hck, hskip]

/-- non-vacuity: checkpoint `2` partially applied, an older file and a later checkpoint around it. -/
example :
    (match (pending {} [⟨"1_a.sql", "1", "a", [], false, ""⟩, ⟨"2_c.sql", "2", "c", [], true, ""⟩,
        ⟨"3_b.sql", "3", "b", [], false, ""⟩, ⟨"4_c.sql", "4", "c", [], true, ""⟩, ⟨"5_b.sql", "5", "b", [], false, ""⟩]
      [{ version := "2", applied := 1, total := 3 }]).out with
     | .ok l => l.map (·.version) | .error _ => []) = ["2", "3", "5"] := by decide +kernel

/-! ### `atlas migrate set` (migrateSetRun) composed with `Pending` -/

/-- **set_agrees**: a resolved revision counts as applied: when every file up to `v` has a revision that is complete
*or* resolved (`migrateSetRun` writes `Execute|Resolved` for a partial / failed `v`, `Resolved` for files it records
itself), `Pending` returns exactly the files after `v`. -/
theorem set_agrees (cfg : Cfg) (pre rest : List MFile) (revs : List Revision)
    (hb : cfg.baseline = "") (hc : cfg.clean = true)
    (nock : ∀ f ∈ pre ++ rest, f.checkpoint = false) (sorted : SortedV (pre ++ rest))
    (hv : revs.map (·.version) = pre.map (·.version))
    (hdone : ∀ r ∈ revs, r.applied = r.total ∨ r.resolved = true) :
    (pending cfg (pre ++ rest) revs).out = (if rest = [] then .error .noPending else .ok rest) :=
  (pending_linear cfg pre rest revs hb hc
    ⟨nock, sorted, .inl ⟨hv, fun r hr => (hdone r (List.mem_of_getLast? hr)).elim (Revision.complete_not_partially r) (Revision.resolved_not_partially r)⟩⟩).2

/-- non-vacuity: version 1 failed after one of two statements and was then `set`; version 2 is what runs. -/
example :
    (match (pending {} [⟨"1_a.sql", "1", "a", [], false, ""⟩, ⟨"2_b.sql", "2", "b", [], false, ""⟩]
      [{ version := "1", typ := 6, applied := 1, total := 2 }]).out with
     | .ok l => l.map (·.version) | .error _ => []) = ["2"] := by decide +kernel

section SetVersion
open Atlas.Exec Atlas.SetV

/-- **set_then_pending**: `atlas migrate set v` (`v` the version of `z`) on a version-sorted, checkpoint-free
directory and ANY history without holes (the revisions of a prefix `pre0`, shorter or longer than the target, each
in any state), then `Pending`: one revision per file up to `v`, exactly the files after `v` pending. Status / apply
after `set v` therefore agree with what `set` reports. -/
theorem set_then_pending (cfg : Cfg) (hb : cfg.baseline = "") (hc : cfg.clean = true)
    (init rest pre0 rest0 : List MFile) (z : MFile) (revs : List Revision)
    (nock : ∀ f ∈ (init ++ [z]) ++ rest, f.checkpoint = false) (hs : SortedV ((init ++ [z]) ++ rest))
    (hsplit : pre0 ++ rest0 = (init ++ [z]) ++ rest) (hv0 : revs.map (·.version) = pre0.map (·.version)) :
    (setRevs ((init ++ [z]) ++ rest) revs z.version).map (·.version) = (init ++ [z]).map (·.version) ∧
    (pending cfg ((init ++ [z]) ++ rest) (setRevs ((init ++ [z]) ++ rest) revs z.version)).out =
      (if rest = [] then .error .noPending else .ok rest) := by
  have key := setRevs_linear (z := z) List.getLast?_concat hs hsplit hv0
  exact ⟨key.1, (pending_linear cfg (init ++ [z]) rest _ hb hc ⟨nock, hs, .inl key⟩).2⟩

/-- non-vacuity: file 2 failed after one of two statements; `migrate set 3` steps over it (its row stays), records
file 3 as resolved, and only file 4 remains pending. -/
example :
    let dir : List MFile := [⟨"1_a.sql", "1", "a", [], false, ""⟩, ⟨"2_b.sql", "2", "b", [], false, ""⟩,
      ⟨"3_c.sql", "3", "c", [], false, ""⟩, ⟨"4_d.sql", "4", "d", [], false, ""⟩]
    let revs : List Revision := [{ version := "1", applied := 2, total := 2 },
      { version := "2", applied := 1, total := 2, error := "boom" }]
    ((Atlas.SetV.setRevs dir revs "3").map (fun r => (r.version, r.typ, r.applied, r.total)) =
        [("1", 2, 2, 2), ("2", 2, 1, 2), ("3", 4, 0, 0)]) ∧
    (match (pending {} dir (Atlas.SetV.setRevs dir revs "3")).out with
     | .ok l => l.map (·.version) | .error _ => []) = ["4"] := by decide +kernel

/-- … and `migrate set 2` on the same history marks the failed row `Execute|Resolved` (6). -/
example :
    let dir : List MFile := [⟨"1_a.sql", "1", "a", [], false, ""⟩, ⟨"2_b.sql", "2", "b", [], false, ""⟩,
      ⟨"3_c.sql", "3", "c", [], false, ""⟩]
    let revs : List Revision := [{ version := "1", applied := 2, total := 2 },
      { version := "2", applied := 1, total := 2, error := "boom" }]
    ((Atlas.SetV.setRevs dir revs "2").map (fun r => (r.version, r.typ, r.applied, r.total)) =
        [("1", 2, 2, 2), ("2", 6, 1, 2)]) ∧
    (match (pending {} dir (Atlas.SetV.setRevs dir revs "2")).out with
     | .ok l => l.map (·.version) | .error _ => []) = ["3"] := by decide +kernel

end SetVersion

/-! ### every answer is part of the directory; `ExecuteTo` -/

/-- **pending_files_of_directory**: nothing is ever run that the (validated) directory does not hold. -/
theorem pending_files_of_directory (cfg : Cfg) (all : List MFile) (revs : List Revision) (l : List MFile)
    (h : (pending cfg all revs).out = .ok l) : ∀ f ∈ l, f ∈ all :=
  (pending_sublist h).subset

/-- **pending_is_subsequence**: in directory order, each file at most once (also under `non-linear`: the out-of-order
files all stand in front of the first pending file). -/
theorem pending_is_subsequence (cfg : Cfg) (all : List MFile) (revs : List Revision) (l : List MFile)
    (h : (pending cfg all revs).out = .ok l) : l.Sublist all :=
  pending_sublist h

/-- **pending_versions_distinct**: no version is returned twice (directories have distinct versions). -/
theorem pending_versions_distinct (cfg : Cfg) (all : List MFile) (revs : List Revision) (l : List MFile)
    (hn : (all.map (·.version)).Nodup) (h : (pending cfg all revs).out = .ok l) : (l.map (·.version)).Nodup :=
  ((pending_sublist h).map _).nodup hn

/-- **pending_count_le**: never more files than the directory holds. -/
theorem pending_count_le (cfg : Cfg) (all : List MFile) (revs : List Revision) (l : List MFile)
    (h : (pending cfg all revs).out = .ok l) : l.length ≤ all.length :=
  (pending_is_subsequence cfg all revs l h).length_le

/-- **execute_to_is_subsequence**, **execute_to_stops_at_target**: `ExecuteTo(v)` executes a sub-sequence of the
directory: nothing behind the target when a checkpoint file stands behind it, otherwise the prefix of `Pending`'s
answer that ends with the target. -/
theorem execute_to_is_subsequence (cfg : Cfg) (all : List MFile) (revs : List Revision) (v : String) (l : List MFile)
    (h : executeTo cfg all revs v = some (.ok l)) : l.Sublist all :=
  executeTo_sublist h

theorem execute_to_stops_at_target (cfg : Cfg) (all : List MFile) (revs : List Revision) (v : String) (idx : Nat)
    (l : List MFile) (hi : lastIndex (fun f => f.version == v) all = some idx)
    (h : executeTo cfg all revs v = some (.ok l)) :
    ((all.drop (idx + 1)).any (fun f => f.checkpoint) = true → l.Sublist (all.take (idx + 1))) ∧
    ((all.drop (idx + 1)).any (fun f => f.checkpoint) = false →
      ∃ p i, (pending cfg all revs).out = .ok p ∧ lastIndex (fun f => f.version == v) p = some i ∧ l = p.take (i + 1)) :=
  ⟨fun hck => executeTo_before_checkpoint hi hck h,
   fun hck => executeTo_prefix hi hck h⟩

/-! ### link to C09 -/

open Atlas.Exec in
/-- **linear_of_dinv**: a state of the C09 invariant, with the reachable shape of the table, is a `LinearState`. -/
theorem linear_of_dinv {H : Text → String} {pre rest : List MFile} {w : World} {a e k : Nat}
    (inv : DInv H pre rest w a e k) (hr : RInv (pre ++ rest) w.revs)
    (nock : ∀ f ∈ pre ++ rest, f.checkpoint = false) (hs : SortedV (pre ++ rest)) :
    LinearState pre rest w.revs := by
  refine ⟨nock, hs, ?_⟩
  have hrow : ∀ m ∈ pre, ∃ r ∈ w.revs, r.version = m.version ∧ r.partially = false := by
    intro m hm
    obtain ⟨r, h1, h2, h3⟩ := inv.done m hm
    exact ⟨r, (findRev_mem h1).1, (findRev_mem h1).2, Revision.complete_not_partially r (h2.trans h3.symm)⟩
  -- the table and a sorted list of files with the same versions: equal lists of versions
  have hvers : ∀ fs : List MFile, SortedV fs → (∀ r ∈ w.revs, r.version ∈ fs.map (·.version)) →
      (∀ f ∈ fs, f.version ∈ w.revs.map (·.version)) → w.revs.map (·.version) = fs.map (·.version) :=
    fun fs hfs h1 h2 => sorted_ext hr.sorted hfs fun x =>
      ⟨fun hx => by obtain ⟨r, hrm, rfl⟩ := List.mem_map.mp hx; exact h1 r hrm,
       fun hx => by obtain ⟨f, hf, rfl⟩ := List.mem_map.mp hx; exact h2 f hf⟩
  have hpre : ∀ f ∈ pre, f.version ∈ w.revs.map (·.version) := fun f hf =>
    (hrow f hf).elim fun r h => List.mem_map.mpr ⟨r, h.1, h.2.1⟩
  have hleft : (∀ r ∈ w.revs, r.version ∈ pre.map (·.version)) →
      w.revs.map (·.version) = pre.map (·.version) ∧
        ∀ last, w.revs.getLast? = some last → last.partially = false := by
    refine fun h1 => ⟨hvers pre (pairwise_map_append.mp hs).1 h1 hpre, fun last hl => ?_⟩
    have hlm := List.mem_of_getLast? hl
    obtain ⟨m, hm, hmv⟩ := List.mem_map.mp (h1 last hlm)
    obtain ⟨r, hrm, hv', hp⟩ := hrow m hm
    exact eq_of_version_eq hr.sorted hrm hlm (hv'.trans hmv) ▸ hp
  cases rest with
  | nil =>
    refine .inl (hleft fun r hrm => ?_)
    obtain ⟨_, m, hm, hmv⟩ := hr.good r hrm
    exact List.mem_map.mpr ⟨m, List.append_nil pre ▸ hm, hmv⟩
  | cons m post =>
    have hwhere : ∀ r ∈ w.revs, r.version ∈ pre.map (·.version) ∨ r.version = m.version := by
      intro r hrm
      obtain ⟨_, m0, hm0, hmv⟩ := hr.good r hrm
      rcases List.mem_append.mp hm0 with hp | hp
      · exact .inl (List.mem_map.mpr ⟨m0, hp, hmv⟩)
      · rcases List.mem_cons.mp hp with rfl | hp'
        · exact .inr hmv.symm
        · exact absurd (List.mem_map.mpr ⟨r, hrm, hmv.symm⟩) ((findRev_eq_none _ _).mp (inv.cur.2.2.2 m0 hp'))
    cases hf : findRev m.version w.revs with
    | none =>
      exact .inl (hleft fun r hrm => (hwhere r hrm).resolve_right fun h =>
        (findRev_eq_none _ _).mp hf (h ▸ List.mem_map_of_mem hrm))
    | some rp =>
      obtain ⟨hrpm, hrpv⟩ := findRev_mem hf
      -- the row of `m` is the last one, and partial
      have hpart : rp.partially = true := by
        simp [Revision.partially, good_not_resolved (hr.good rp hrpm), Nat.ne_of_lt (inv.cur_unfinished hf)]
      have hv := hvers (pre ++ [m]) (pairwise_map_append.mp (List.append_cons pre m post ▸ hs)).1
        (fun r hrm => by simpa using hwhere r hrm)
        (fun f hf => (List.mem_append.mp hf).elim (hpre f) fun h =>
          List.mem_singleton.mp h ▸ List.mem_map.mpr ⟨rp, hrpm, hrpv⟩)
      obtain ⟨rs, rl, hsplit, hrl⟩ := getLast?_of_map_eq hv.symm List.getLast?_concat
      obtain rfl : rl = rp :=
        eq_of_version_eq hr.sorted (hsplit ▸ List.mem_append_right _ (List.mem_singleton.mpr rfl)) hrpm
          (hrl.trans hrpv.symm)
      rw [hsplit, List.map_append, List.map_append] at hv
      exact .inr ⟨m, post, rs, rl, rfl, hsplit, (List.append_inj' hv rfl).1, hrpv, hpart⟩

open Atlas.Exec in
/-- **pending_of_dinv**: in every such state `Pending` returns exactly `Props.C09.pendingSpec`. -/
theorem pending_of_dinv {H : Text → String} {pre rest : List MFile} {w : World} {a e k : Nat}
    (cfg : Cfg) (hb : cfg.baseline = "") (hc : cfg.clean = true)
    (inv : DInv H pre rest w a e k) (hr : RInv (pre ++ rest) w.revs)
    (nock : ∀ f ∈ pre ++ rest, f.checkpoint = false) (hs : SortedV (pre ++ rest)) :
    (pending cfg (pre ++ rest) w.revs).baselineWrite = none ∧
    (pending cfg (pre ++ rest) w.revs).out = (if rest = [] then .error .noPending else .ok rest) :=
  pending_linear cfg pre rest w.revs hb hc (linear_of_dinv inv hr nock hs)

open Atlas.Exec in
/-- **executeN_eq_attempt**: one `ExecuteN` (all pending files) reaches the same state as the attempt of C09. -/
theorem executeN_eq_attempt {H : Text → String} {dir pre rest : List MFile} {w : World} {a e k : Nat}
    (cfg : Cfg) (hb : cfg.baseline = "") (hc : cfg.clean = true) (hsplit : pre ++ rest = dir)
    (inv : DInv H pre rest w a e k) (hr : RInv dir w.revs)
    (nock : ∀ f ∈ dir, f.checkpoint = false) (hs : SortedV dir) (fs : List Nat) :
    (executeN true H cfg dir 0 { w with tick := 0, faults := fs }).1 = (Props.C09.attempt H dir w fs).1 := by
  subst hsplit
  obtain ⟨hbw, hout⟩ := pending_of_dinv cfg hb hc inv hr nock hs
  unfold executeN Props.C09.attempt
  rw [Props.C09.pendingSpec_eq inv]
  simp only [hbw, hout]
  cases rest with
  | nil => simp [execFiles]
  | cons m post => simp

open Atlas.Exec in
/-- **attempts_eq**: `ExecuteN` calls, each under its own fault schedule, walk through the states of
`Props.C09.attempts`: every C09 theorem is one about `Atlas.Exec.attempts` on a linear, checkpoint-free directory. -/
theorem attempts_eq {H : Text → String} {dir : List MFile} (cfg : Cfg) (hb : cfg.baseline = "")
    (hc : cfg.clean = true) (nock : ∀ f ∈ dir, f.checkpoint = false) (hs : SortedV dir) :
    ∀ (scheds : List (List Nat)) (w : World) (pre rest : List MFile) (a e k : Nat),
      pre ++ rest = dir → DInv H pre rest w a e k → RInv dir w.revs →
      (Atlas.Exec.attempts true H cfg dir 0 scheds w).1 = Props.C09.attempts H dir w scheds := by
  have hnd : (dir.map (·.version)).Nodup := hs.imp (fun h => String.ne_of_lt h)
  intro scheds
  induction scheds with
  | nil => intro w _ _ _ _ _ _ _ _; rfl
  | cons fs tl ih =>
    intro w pre rest a e k hsplit inv hr
    obtain ⟨pre', rest', a', e', k', hs', inv', _⟩ := Props.C09.inv_step hnd hsplit inv fs
    have hr' : RInv dir (Props.C09.attempt H dir w fs).1.revs := by
      refine execFiles_rinv true H _ { w with tick := 0, faults := fs } hr fun m hm => ?_
      rw [← hsplit, Props.C09.pendingSpec_eq inv] at hm
      exact hsplit ▸ List.mem_append_right _ hm
    rw [attempts_cons, executeN_eq_attempt cfg hb hc hsplit inv hr nock hs fs]
    exact ih _ pre' rest' a' e' k' hs' inv' hr'

open Atlas.Exec in
/-- **executeN_reachable**: what repeated `ExecuteN` runs reach from the empty database is `Reachable` (C09). -/
theorem executeN_reachable {H : Text → String} {dir : List MFile} (cfg : Cfg) (hb : cfg.baseline = "")
    (hc : cfg.clean = true) (nock : ∀ f ∈ dir, f.checkpoint = false) (hs : SortedV dir)
    (scheds : List (List Nat)) :
    Props.C09.Reachable H dir (Atlas.Exec.attempts true H cfg dir 0 scheds {}).1 :=
  ⟨scheds, attempts_eq cfg hb hc nock hs scheds {} [] dir 0 0 0 rfl (Props.C09.inv_init H dir) (rinv_nil dir)⟩

/-- non-vacuity: the directory of the C09 examples, three `ExecuteN` runs (the revision write after statement A
fails; the re-execution of A fails; clean run). -/
example : (Atlas.Exec.attempts true Props.C09.toyH {} Props.C09.dir2 0 [[2], [1], []] {}).1.journal =
    ["A;".toList, "A;".toList, "B;".toList, "C;".toList] := by decide +kernel

end Props.C11

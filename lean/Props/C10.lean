/-
C10 — `migrate apply` is crash-consistent at every point, per transaction mode.

Model: `Atlas.Tx` (operation plan of `migrateApplyRun` + `Executor.Execute`, durable state + working
copy of the open transaction, crash = first k operations happened and the working copy is lost).
The plan and every crash state are compared with the real binary by the correspondence run.

Proved here for every directory (any number of files and statements, all statements succeeding, no
txmode directives), every number `t0` of files applied by earlier runs, every crash point `k`:
* `crash_file` / `crash_all` — file and all mode: the database after a crash is exactly the database
  after `t` completely applied files (`t0 ≤ t`; in all mode `t = t0` or all files): no half-applied
  file, and the revision table describes exactly the effects present;
* `crash_none` — none mode: `t` complete files and possibly file `t` partially applied, with `a ≤ i ≤ a+1`
  (`i` statements executed, `a` recorded): the revision table is never ahead of the effects and at
  most the statement in flight is unrecorded (stated as `NoneCrashState`, without `t0 ≤ t`; `crash_good` has it);
* `rerun_file_all`, `rerun_none` — running the same command again from any such state ends in a
  database whose revision table is that of an uninterrupted run and whose journal is that of the
  uninterrupted run (file/all: equal, every statement exactly once) with at most one extra row, the
  statement in flight (none); `crash_then_rerun_file`, `crash_then_rerun_all` — crash and re-run in one statement;
* `rev_le_db` — in every crash state every recorded statement has its effect in the journal
  (`after_is_crash_state`: the file / all crash states are among the states it speaks of).

* `crash_file_count`, `crash_all_count`, `crash_none_count`, `rerun_count` — the apply-count argument:
  the same crash states, in file and all mode at most `n` files beyond the ones applied before
  (`crash_none_count` states no bound); the completed command applies exactly the next `n` files (or all
  that are left). `n = 0` is covered, though atlas rejects `migrate apply 0` (migrate_oss.go:34).
* `crash_mixed`, `crash_mixed_state`, `run_mixed` — directories whose files carry `-- atlas:txmode`
  directives (any mix of `file` and `none` files, repaired `mayCommit`: `cfg.fixed = true`): a crash leaves
  `t` complete files and a recorded prefix of file `t` only if THAT file runs without a transaction — a file
  in its own transaction is never half-applied, whatever its neighbours do (`crash_mixed_state`: as
  `NoneCrashState`, for `rev_le_db`; without `t0 ≤ t`); the uninterrupted run applies every file.

For ANY directory - failing statements anywhere, any count, any revision table:
* `crash_all_any` — `--tx-mode all`, `txmode` directives of any kind: a process that dies before the last
  operation of the command - the only COMMIT, if there is one - has changed nothing durable;
  `rerun_after_crash_all_any` — and the re-run after such a crash is the crashed run over again;
* `crash_none_any` — `--tx-mode none`, no directives: the state after a crash is exactly the operations
  performed before it, applied in order - whatever ran is durable, nothing is ever undone;
* `crash_file_any` — `--tx-mode file`, no directives: the state after a crash at any point is the state after a
  complete, successful run over the first `t` pending files, for some `t` - no file is ever half-applied.
  (Stated with `cfg.fixed = true`; under `--tx-mode file` the pinned `mayCommit` commits every file just the same.)
* `crash_dry_run_any` — with `--dry-run` a crash at any point leaves the database as it was.

PARTIAL - not covered by these theorems (the correspondence run covers them on the real engine):
(1) that the `t` of `crash_file_any` is the number of blocks completed before the crash point, for directories
with failing statements; (2) the re-run from a half-applied file of a directive mix; (3) crashes of the re-run
itself in none mode (duplicates then add up: one per crash); (4) SQLite's own recovery.
-/
import Lemmas.TxPlan

namespace Props.C10
open Atlas.Tx

/-- the database after the first `t` files of `dir` were applied completely. -/
def after (dir : List TFile) (t : Nat) : Db := applyFiles {} (dir.take t)

theorem after_revs_length (dir : List TFile) (t : Nat) (ht : t ≤ dir.length) : (after dir t).revs.length = t := by
  simp [after, applyFiles_revs_length, Nat.min_eq_left ht]

theorem after_add (dir : List TFile) (t t' : Nat) :
    applyFiles (after dir t) ((dir.drop t).take t') = after dir (t + t') := by
  unfold after
  rw [← applyFiles_append, List.take_add]

theorem after_drop (dir : List TFile) (t : Nat) : applyFiles (after dir t) (dir.drop t) = after dir dir.length := by
  unfold after
  rw [← applyFiles_append, List.take_append_drop, List.take_length]

theorem after_take (dir : List TFile) (m t : Nat) (h : t ≤ m) : after (dir.take m) t = after dir t := by
  unfold after; rw [List.take_take, Nat.min_eq_left h]

theorem after_succ (dir : List TFile) (t : Nat) (f : TFile) (hf : dir[t]? = some f) :
    after dir (t + 1) = applyFile (after dir t) f := by
  unfold after
  rw [List.take_add_one, hf, applyFiles_append]
  rfl

theorem plan_after (cfg : Cfg) (hd : cfg.dryRun = false) (dir : List TFile) (t : Nat) (ht : t ≤ dir.length) :
    plan cfg dir (after dir t) = planFiles cfg (after dir t) false t (limit cfg.count (dir.drop t)) := by
  have hp : pendingStart (after dir t) = t := by
    unfold after; rw [pendingStart_applyFiles, List.length_take, Nat.min_eq_left ht]
  simp [plan, hd, hp]

/-- `crash_file`, `crash_none`, `crash_mixed` and their `_count` versions are this statement. -/
theorem crash_good (cfg : Cfg) (hd : cfg.dryRun = false) (dir : List TFile) (h : Good cfg dir) (t0 : Nat)
    (ht0 : t0 ≤ dir.length) (k : Nat) :
    ∃ t, t0 ≤ t ∧ t ≤ t0 + (limit cfg.count (dir.drop t0)).length ∧ t ≤ dir.length ∧
      (crashAt (after dir t0) (plan cfg dir (after dir t0)).1 k = after dir t ∨
       ∃ f i a, dir[t]? = some f ∧ modeFor cfg f ≠ some .file ∧ a ≤ i ∧ i ≤ a + 1 ∧ i ≤ f.ok.length ∧
         crashAt (after dir t0) (plan cfg dir (after dir t0)).1 k = partFile (after dir t) i a f.ok.length) := by
  have hl := after_revs_length dir t0 ht0
  rw [plan_after cfg hd dir t0 ht0]
  obtain ⟨t, ht, hcase⟩ := planFiles_good_crash (files := limit cfg.count (dir.drop t0))
    (h.of_subset limit_drop_subset) hl (Nat.le_of_eq hl) k
  rw [take_limit ht, after_add] at hcase
  have hlen := length_limit_le cfg.count (dir.drop t0)
  rw [List.length_drop] at hlen
  refine ⟨t0 + t, Nat.le_add_right .., Nat.add_le_add_left ht _, by omega, ?_⟩
  refine hcase.imp id (fun ⟨f, i, a, hf, rest⟩ => ⟨f, i, a, ?_, rest⟩)
  rw [← List.getElem?_drop]
  exact getElem?_limit hf

theorem crash_file (cfg : Cfg) (hm : cfg.mode = .file) (hc : cfg.count = none) (hd : cfg.dryRun = false)
    (dir : List TFile) (h : AllOk dir) (t0 : Nat) (ht0 : t0 ≤ dir.length) (k : Nat) :
    ∃ t, t0 ≤ t ∧ t ≤ dir.length ∧ crashAt (after dir t0) (plan cfg dir (after dir t0)).1 k = after dir t := by
  obtain ⟨t, h1, -, h2, he | ⟨f, _, _, hf, hne, _⟩⟩ := crash_good cfg hd dir (Good.of_allOk (Or.inl hm) h) t0 ht0 k
  · exact ⟨t, h1, h2, he⟩
  · exact absurd (modeFor_nodir (h f (List.mem_of_getElem? hf)).1 hm) hne

/-- succeeding files without directives, any mode, with or without a count: the command applies exactly the files it
was asked to. -/
theorem run_allOk (cfg : Cfg) (hd : cfg.dryRun = false) (dir : List TFile) (t : Nat) (ht : t ≤ dir.length)
    (h : AllOk (limit cfg.count (dir.drop t))) :
    runAll (after dir t) (plan cfg dir (after dir t)).1 = after dir (t + (limit cfg.count (dir.drop t)).length) ∧
    (plan cfg dir (after dir t)).2 = true := by
  have hl := after_revs_length dir t ht
  obtain ⟨hok, hrun⟩ := planFiles_allOk cfg h hl (Nat.le_of_eq hl)
  rw [plan_after cfg hd dir t ht, hrun]
  exact ⟨(congrArg _ (limit_eq_take _ _)).trans (after_add dir t _), hok⟩

/-- the same for `Good` files (`AllOk` under `--tx-mode all` is not `Good`, hence two lemmas). -/
theorem run_good (cfg : Cfg) (hd : cfg.dryRun = false) (dir : List TFile) (t : Nat) (ht : t ≤ dir.length)
    (h : Good cfg (limit cfg.count (dir.drop t))) :
    runAll (after dir t) (plan cfg dir (after dir t)).1 = after dir (t + (limit cfg.count (dir.drop t)).length) ∧
    (plan cfg dir (after dir t)).2 = true := by
  have hl := after_revs_length dir t ht
  obtain ⟨hok, hrun⟩ := planFiles_good h hl (Nat.le_of_eq hl)
  rw [plan_after cfg hd dir t ht, runAll_of_closed hrun]
  exact ⟨(congrArg _ (limit_eq_take _ _)).trans (after_add dir t _), hok⟩

/-- `rerun_file_all` without its mode hypothesis (`rerun_none` needs that). -/
theorem run_allOk_noCount (cfg : Cfg) (hc : cfg.count = none) (hd : cfg.dryRun = false) (dir : List TFile) (h : AllOk dir)
    (t : Nat) (ht : t ≤ dir.length) : runAll (after dir t) (plan cfg dir (after dir t)).1 = after dir dir.length := by
  rw [(run_allOk cfg hd dir t ht (allOk_limit_drop h _ t)).1, hc, limit_none, List.length_drop,
    Nat.add_sub_cancel' ht]

theorem rerun_file_all (cfg : Cfg) (hm : cfg.mode = .file ∨ cfg.mode = .all) (hc : cfg.count = none)
    (hd : cfg.dryRun = false) (dir : List TFile) (h : AllOk dir) (t : Nat) (ht : t ≤ dir.length) :
    runAll (after dir t) (plan cfg dir (after dir t)).1 = after dir dir.length :=
  run_allOk_noCount cfg hc hd dir h t ht

theorem crash_all (cfg : Cfg) (hm : cfg.mode = .all) (hc : cfg.count = none) (hd : cfg.dryRun = false)
    (dir : List TFile) (h : AllOk dir) (t0 : Nat) (ht0 : t0 ≤ dir.length) (k : Nat) :
    crashAt (after dir t0) (plan cfg dir (after dir t0)).1 k = after dir t0 ∨
    crashAt (after dir t0) (plan cfg dir (after dir t0)).1 k = after dir dir.length := by
  by_cases hk : k < (plan cfg dir (after dir t0)).1.length
  · exact Or.inl (plan_all_crash_any cfg hm dir _ k hk)
  · right
    rw [crashAt_of_length_le (Nat.le_of_not_lt hk)]
    exact rerun_file_all cfg (Or.inr hm) hc hd dir h t0 ht0

theorem crash_then_rerun_file (cfg : Cfg) (hm : cfg.mode = .file) (hc : cfg.count = none) (hd : cfg.dryRun = false)
    (dir : List TFile) (h : AllOk dir) (t0 : Nat) (ht0 : t0 ≤ dir.length) (k : Nat) :
    let c := crashAt (after dir t0) (plan cfg dir (after dir t0)).1 k
    runAll c (plan cfg dir c).1 = after dir dir.length := by
  intro c
  obtain ⟨t, _, ht, he⟩ := crash_file cfg hm hc hd dir h t0 ht0 k
  show runAll (crashAt _ _ k) (plan cfg dir (crashAt _ _ k)).1 = _
  rw [he]
  exact rerun_file_all cfg (Or.inl hm) hc hd dir h t ht

theorem crash_then_rerun_all (cfg : Cfg) (hm : cfg.mode = .all) (hc : cfg.count = none) (hd : cfg.dryRun = false)
    (dir : List TFile) (h : AllOk dir) (t0 : Nat) (ht0 : t0 ≤ dir.length) (k : Nat) :
    let c := crashAt (after dir t0) (plan cfg dir (after dir t0)).1 k
    runAll c (plan cfg dir c).1 = after dir dir.length := by
  intro c
  show runAll (crashAt _ _ k) (plan cfg dir (crashAt _ _ k)).1 = _
  rcases crash_all cfg hm hc hd dir h t0 ht0 k with he | he <;> rw [he]
  · exact rerun_file_all cfg (Or.inr hm) hc hd dir h t0 ht0
  · exact rerun_file_all cfg (Or.inr hm) hc hd dir h dir.length (Nat.le_refl _)

/-- the states a crash can leave in none mode: `t` complete files, or additionally file `t` with `i`
statements executed and `a` recorded, `a ≤ i ≤ a+1`. -/
def NoneCrashState (dir : List TFile) (c : Db) : Prop :=
  ∃ t, t ≤ dir.length ∧
    (c = after dir t ∨
     ∃ f i a, dir[t]? = some f ∧ a ≤ i ∧ i ≤ a + 1 ∧ i ≤ f.ok.length ∧ c = partFile (after dir t) i a f.ok.length)

theorem crash_good_state (cfg : Cfg) (hd : cfg.dryRun = false) (dir : List TFile) (h : Good cfg dir) (t0 : Nat)
    (ht0 : t0 ≤ dir.length) (k : Nat) :
    NoneCrashState dir (crashAt (after dir t0) (plan cfg dir (after dir t0)).1 k) := by
  obtain ⟨t, -, -, ht, hcase⟩ := crash_good cfg hd dir h t0 ht0 k
  exact ⟨t, ht, hcase.imp id (fun ⟨f, i, a, hf, _, h1, h2, h3, he⟩ => ⟨f, i, a, hf, h1, h2, h3, he⟩)⟩

theorem crash_none (cfg : Cfg) (hm : cfg.mode = .none) (hc : cfg.count = none) (hd : cfg.dryRun = false)
    (dir : List TFile) (h : AllOk dir) (t0 : Nat) (ht0 : t0 ≤ dir.length) (k : Nat) :
    NoneCrashState dir (crashAt (after dir t0) (plan cfg dir (after dir t0)).1 k) :=
  crash_good_state cfg hd dir (Good.of_allOk (Or.inr hm) h) t0 ht0 k

/-- the journal of the re-run is the journal of the uninterrupted run with at most one extra row, a
repetition of a statement of the directory (the one in flight at the crash). -/
def AtMostOneTwice (clean final : List (Nat × Nat)) : Prop :=
  ∃ pre extra post, clean = pre ++ post ∧ final = pre ++ extra ++ post ∧ extra.length ≤ 1 ∧ ∀ x ∈ extra, x ∈ clean

theorem rerun_none (cfg : Cfg) (hm : cfg.mode = .none) (hc : cfg.count = none) (hd : cfg.dryRun = false)
    (dir : List TFile) (h : AllOk dir) (c : Db) (hcs : NoneCrashState dir c) :
    (runAll c (plan cfg dir c).1).revs = (after dir dir.length).revs ∧
    AtMostOneTwice (after dir dir.length).journal (runAll c (plan cfg dir c).1).journal := by
  have same : ∀ d : Db, d = after dir dir.length →
      d.revs = (after dir dir.length).revs ∧ AtMostOneTwice (after dir dir.length).journal d.journal := by
    intro d hd'; subst hd'
    exact ⟨rfl, (after dir dir.length).journal, [], [], by simp, by simp, by simp, by simp⟩
  obtain ⟨t, ht, rfl | ⟨f, i, a, hf, h1, h2, h3, rfl⟩⟩ := hcs
  · exact same _ (run_allOk_noCount cfg hc hd dir h t ht)
  · obtain ⟨htlt, hv⟩ := List.getElem?_eq_some_iff.mp hf
    by_cases ham : a = f.ok.length
    · have hi : i = f.ok.length := by omega
      subst ham; rw [hi, partFile_complete, ← after_succ dir t f hf]
      exact same _ (run_allOk_noCount cfg hc hd dir h (t + 1) (by omega))
    · have halt : a < f.ok.length := by omega
      have hl := after_revs_length dir t ht
      have hdrop : dir.drop t = f :: dir.drop (t + 1) := by rw [List.drop_eq_getElem_cons htlt, hv]
      -- the command resumes file `t` at statement `a`
      unfold partFile
      rw [plan_resume hc hd _ false (by rw [hl]; exact hdrop) halt
          (by rw [← hdrop]; exact (Good.of_allOk (Or.inr hm) h).of_subset (List.drop_subset ..)),
        ← after_drop dir t, hdrop, applyFiles, applyFiles_eq, applyFiles_eq]
      refine ⟨by simp [applyFile], ?_⟩
      -- the resumed file runs the statements `a ..`, the uninterrupted run still misses `i ..`, and `a ≤ i ≤ a + 1`:
      -- at most statement `a` in addition; the rows of the later files stand behind both
      refine ⟨(after dir t).journal ++ (List.range i).map (fun x => (t, x)),
        (List.range' a (i - a)).map (fun x => (t, x)),
        (List.range' i (f.ok.length - i)).map (fun x => (t, x)) ++ jrn (t + 1) (dir.drop (t + 1)),
        ?_, ?_, by rw [List.length_map, List.length_range']; omega, ?_⟩
      · simp [applyFile, hl, range_append_range' h3]
      · simp [hl, range'_split h1 h3]
      · intro x hx
        obtain ⟨y, hy, rfl⟩ := List.mem_map.mp hx
        rw [List.mem_range'_1] at hy
        simp only [applyFile, hl, List.mem_append, List.mem_map, List.mem_range]
        exact Or.inl (Or.inr ⟨y, by omega, rfl⟩)

theorem rev_le_db (dir : List TFile) (c : Db) (hcs : NoneCrashState dir c) :
    ∀ (f : Nat) (r : Rev), c.revs[f]? = some r → ∀ i, i < r.applied → (f, i) ∈ c.journal := by
  obtain ⟨t, ht, hcase⟩ := hcs
  rcases hcase with rfl | ⟨g, n, a, hg, h1, h2, h3, rfl⟩
  · exact applyFiles_rev_le _ (d := {}) nofun
  · exact partFile_rev_le (applyFiles_rev_le _ (d := {}) nofun) _ h1

theorem after_is_crash_state (dir : List TFile) (t : Nat) (ht : t ≤ dir.length) : NoneCrashState dir (after dir t) :=
  ⟨t, ht, Or.inl rfl⟩

/-! ### the apply-count argument (`atlas migrate apply N`) -/

theorem crash_file_count (cfg : Cfg) (hm : cfg.mode = .file) (n : Nat) (hc : cfg.count = some n)
    (hd : cfg.dryRun = false) (dir : List TFile) (h : AllOk dir) (t0 : Nat) (ht0 : t0 ≤ dir.length) (k : Nat) :
    ∃ t, t0 ≤ t ∧ t ≤ t0 + n ∧ t ≤ dir.length ∧
      crashAt (after dir t0) (plan cfg dir (after dir t0)).1 k = after dir t := by
  obtain ⟨t, h1, h2, h3, he | ⟨f, _, _, hf, hne, _⟩⟩ := crash_good cfg hd dir (Good.of_allOk (Or.inl hm) h) t0 ht0 k
  · rw [hc] at h2
    rw [limit_some, List.length_take] at h2
    exact ⟨t, h1, Nat.le_trans h2 (Nat.add_le_add_left (Nat.min_le_left ..) _), h3, he⟩
  · exact absurd (modeFor_nodir (h f (List.mem_of_getElem? hf)).1 hm) hne

theorem rerun_count (cfg : Cfg) (hm : cfg.mode = .file ∨ cfg.mode = .all) (n : Nat) (hc : cfg.count = some n)
    (hd : cfg.dryRun = false) (dir : List TFile) (h : AllOk dir) (t : Nat) (ht : t ≤ dir.length) :
    runAll (after dir t) (plan cfg dir (after dir t)).1 = after dir (min (t + n) dir.length) ∧
    (plan cfg dir (after dir t)).2 = true := by
  have := run_allOk cfg hd dir t ht (allOk_limit_drop h _ t)
  rwa [hc, limit_some, List.length_take, List.length_drop, ← Nat.add_min_add_left, Nat.add_sub_cancel' ht] at this

theorem crash_all_count (cfg : Cfg) (hm : cfg.mode = .all) (n : Nat) (hc : cfg.count = some n)
    (hd : cfg.dryRun = false) (dir : List TFile) (h : AllOk dir) (t0 : Nat) (ht0 : t0 ≤ dir.length) (k : Nat) :
    crashAt (after dir t0) (plan cfg dir (after dir t0)).1 k = after dir t0 ∨
    crashAt (after dir t0) (plan cfg dir (after dir t0)).1 k = after dir (min (t0 + n) dir.length) := by
  by_cases hk : k < (plan cfg dir (after dir t0)).1.length
  · exact Or.inl (plan_all_crash_any cfg hm dir _ k hk)
  · right
    rw [crashAt_of_length_le (Nat.le_of_not_lt hk)]
    exact (rerun_count cfg (Or.inr hm) n hc hd dir h t0 ht0).1

theorem crash_none_count (cfg : Cfg) (hm : cfg.mode = .none) (n : Nat) (hc : cfg.count = some n)
    (hd : cfg.dryRun = false) (dir : List TFile) (h : AllOk dir) (t0 : Nat) (ht0 : t0 ≤ dir.length) (k : Nat) :
    NoneCrashState dir (crashAt (after dir t0) (plan cfg dir (after dir t0)).1 k) :=
  crash_good_state cfg hd dir (Good.of_allOk (Or.inr hm) h) t0 ht0 k

/-! ### directories with `-- atlas:txmode` directives -/

/-- every file succeeds and runs in `file` or `none` mode — by the global mode or by its directive. -/
def MixedOk (cfg : Cfg) (dir : List TFile) : Prop := ∀ f ∈ dir, f.OkIn cfg

theorem crash_mixed (cfg : Cfg) (hfix : cfg.fixed = true) (hc : cfg.count = none) (hd : cfg.dryRun = false)
    (dir : List TFile) (h : MixedOk cfg dir) (t0 : Nat) (ht0 : t0 ≤ dir.length) (k : Nat) :
    ∃ t, t0 ≤ t ∧ t ≤ dir.length ∧
      (crashAt (after dir t0) (plan cfg dir (after dir t0)).1 k = after dir t ∨
       ∃ f i a, dir[t]? = some f ∧ modeFor cfg f ≠ some .file ∧ a ≤ i ∧ i ≤ a + 1 ∧ i ≤ f.ok.length ∧
         crashAt (after dir t0) (plan cfg dir (after dir t0)).1 k = partFile (after dir t) i a f.ok.length) := by
  obtain ⟨t, h1, -, h2, hcase⟩ := crash_good cfg hd dir (Good.of_okIn hfix h) t0 ht0 k
  exact ⟨t, h1, h2, hcase⟩

theorem crash_mixed_state (cfg : Cfg) (hfix : cfg.fixed = true) (hc : cfg.count = none) (hd : cfg.dryRun = false)
    (dir : List TFile) (h : MixedOk cfg dir) (t0 : Nat) (ht0 : t0 ≤ dir.length) (k : Nat) :
    NoneCrashState dir (crashAt (after dir t0) (plan cfg dir (after dir t0)).1 k) :=
  crash_good_state cfg hd dir (Good.of_okIn hfix h) t0 ht0 k

theorem run_mixed (cfg : Cfg) (hfix : cfg.fixed = true) (hc : cfg.count = none) (hd : cfg.dryRun = false)
    (dir : List TFile) (h : MixedOk cfg dir) (t : Nat) (ht : t ≤ dir.length) :
    runAll (after dir t) (plan cfg dir (after dir t)).1 = after dir dir.length ∧
    (plan cfg dir (after dir t)).2 = true := by
  have := run_good cfg hd dir t ht ((Good.of_okIn hfix h).of_subset limit_drop_subset)
  rwa [hc, limit_none, List.length_drop, Nat.add_sub_cancel' ht] at this

/-! ### any directory -/

theorem crash_all_any (cfg : Cfg) (hm : cfg.mode = .all) (dir : List TFile) (db : Db) (k : Nat)
    (hk : k < (plan cfg dir db).1.length) : crashAt db (plan cfg dir db).1 k = db :=
  plan_all_crash_any cfg hm dir db k hk

theorem rerun_after_crash_all_any (cfg : Cfg) (hm : cfg.mode = .all) (dir : List TFile) (db : Db) (k : Nat)
    (hk : k < (plan cfg dir db).1.length) :
    plan cfg dir (crashAt db (plan cfg dir db).1 k) = plan cfg dir db := by
  rw [crash_all_any cfg hm dir db k hk]

theorem crash_none_any (cfg : Cfg) (hm : cfg.mode = .none) (dir : List TFile)
    (hd : ∀ f ∈ dir, f.directive = none) (db : Db) (k : Nat) :
    crashAt db (plan cfg dir db).1 k = ((plan cfg dir db).1.take k).foldl durApply db :=
  plan_none_crash_any cfg hm dir hd db k

theorem crash_file_any (cfg : Cfg) (hm : cfg.mode = .file) (hfix : cfg.fixed = true) (hdr : cfg.dryRun = false)
    (dir : List TFile) (hd : ∀ f ∈ dir, f.directive = none) (db : Db) (k : Nat) :
    ∃ t, t ≤ (limit cfg.count (dir.drop (pendingStart db))).length ∧
      (planFiles cfg db false (pendingStart db) ((limit cfg.count (dir.drop (pendingStart db))).take t)).2 = true ∧
      crashAt db (plan cfg dir db).1 k =
        runAll db (planFiles cfg db false (pendingStart db) ((limit cfg.count (dir.drop (pendingStart db))).take t)).1 :=
  plan_file_crash_any cfg hm hfix hdr dir hd db k

/-- **crash_dry_run_any**: the apply loop holds no database operation. -/
theorem crash_dry_run_any (cfg : Cfg) (hd : cfg.dryRun = true) (dir : List TFile) (db : Db) (k : Nat) :
    crashAt db (plan cfg dir db).1 k = db := by
  simp [plan, hd, crashAt, applyOps, St.crash]

/-! ### non-vacuity -/

def sampleDir : List TFile := [{ ok := [true, true] }, { ok := [true] }, { ok := [true, true, true] }]

example : AllOk sampleDir := by
  intro f hf
  simp [sampleDir] at hf
  rcases hf with rfl | rfl | rfl <;> exact ⟨rfl, by simp⟩

/-- none mode, killed after 8 operations (statement (1,0) executed, not yet recorded), re-run: the
journal has (1,0) twice and every other statement once. -/
example :
    let cfg : Cfg := { mode := .none }
    let c := crashAt {} (plan cfg sampleDir {}).1 8
    c = { journal := [(0,0),(0,1),(1,0)], revs := [⟨2,2,false⟩, ⟨0,1,false⟩] } ∧
    (runAll c (plan cfg sampleDir c).1).journal = [(0,0),(0,1),(1,0),(1,0),(2,0),(2,1),(2,2)] := by decide +kernel

/-- file mode, killed inside the second file's transaction: exactly the first file is applied. -/
example :
    let cfg : Cfg := { mode := .file }
    crashAt {} (plan cfg sampleDir {}).1 11 = after sampleDir 1 := by decide +kernel

/-- a directive mix under `--tx-mode none`: file 1 asks for its own transaction. -/
def mixDir : List TFile := [{ ok := [true, true] }, { ok := [true, true], directive := some .file }, { ok := [true] }]

example : MixedOk { mode := .none } mixDir := by
  intro f hf
  simp only [mixDir, List.mem_cons, List.not_mem_nil, or_false] at hf
  rcases hf with rfl | rfl | rfl
  · exact ⟨by simp, Or.inr (by decide)⟩
  · exact ⟨by simp, Or.inl (by decide)⟩
  · exact ⟨by simp, Or.inr (by decide)⟩

/-- crash in the middle of file 1 (its own transaction): nothing of it; in the middle of file 0: a prefix. -/
example : crashAt {} (plan { mode := .none } mixDir {}).1 9 = after mixDir 1 := by decide +kernel
example : crashAt {} (plan { mode := .none } mixDir {}).1 3 = partFile {} 1 1 2 := by decide +kernel

/-- `crash_all_any`: three files, a failing statement in the last one: 17 operations, every crash point. -/
example :
    let dir : List TFile := [{ ok := [true, true] }, { ok := [true] }, { ok := [true, false] }]
    (plan { mode := .all } dir {}).1.length = 17 ∧
    ∀ k < 17, crashAt {} (plan { mode := .all } dir {}).1 k = {} := by decide +kernel

/-- `crash_none_any`: a failing statement in file 1; after 6 operations file 0 is complete and recorded. -/
example :
    let dir : List TFile := [{ ok := [true, true] }, { ok := [true, false] }]
    crashAt {} (plan { mode := .none } dir {}).1 6 = { journal := [(0,0),(0,1)], revs := [⟨2,2,false⟩] } := by decide +kernel

/-- `crash_file_any`: file 1 fails at its second statement: 15 operations, and at every one of the 16 crash points the
database is empty or holds exactly file 0. -/
example :
    let dir : List TFile := [{ ok := [true, true] }, { ok := [true, false] }, { ok := [true] }]
    (plan { mode := .file } dir {}).1.length = 15 ∧
    ∀ k < 16, crashAt {} (plan { mode := .file } dir {}).1 k = {} ∨
      crashAt {} (plan { mode := .file } dir {}).1 k = { journal := [(0,0),(0,1)], revs := [⟨2,2,false⟩] } := by decide +kernel

end Props.C10

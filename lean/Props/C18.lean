/-
C18 — Lint flags every destructive migration and no purely additive one.

Model: `Atlas.Lint` — the rebuild-detection pass of sqlitecheck, the life-span algebra of
`sqlcheck.File.loadSpans` and the destructive analyzer — and the specification `spec` (a drop is
destructive iff the object was not created earlier in the same file). The derivation of the
per-statement change lists from real SQL is validated by the correspondence run through the real
`atlas migrate lint`.

Proved here (for event lists of any length):
* `flag_iff_preexisting_partial` — for a resource never re-created after a drop inside the file, the
  analyzer's criterion "final span ≠ temporary" holds at a drop exactly when no creation of the resource
  precedes it, i.e. when the drop destroys a pre-existing object; for tables (`table_flag_correct_partial`)
  and columns (`col_flag_correct_partial`); both already hold when no creation follows the drop in question
  (`flag_iff_preexisting`, `span_flag_iff`);
* `drop_add_drop_missed`, `add_drop_add_flagged` — without that hypothesis the statement is FALSE of the
  implementation (known finding);
* `additive_statements_never_flagged`, `additive_file_clean` (`_plain`) — a statement that drops nothing never
  gets DS102 / DS103 whatever else the file holds; a file whose (merged) statements drop nothing is clean;
* `mergeTemp_id` — files without a `new_`-prefixed single CREATE TABLE are analysed as written;
* `rebuild_merged`, `rebuild_flags_omitted_column` — the four-statement rebuild is replaced by one
  ModifyTable that contains a DropColumn for every omitted column.

PARTIAL: the full statement (every destructive file flagged) is false for re-creation after a drop
(known finding); equality `analyze = spec` for whole files is not proved beyond the per-resource
criterion; change derivation from SQL is by correspondence only.
-/
import Atlas.Lint

namespace Props.C18
open Atlas.Lint

/-! ### the life-span algebra, abstractly: a trace of creations (`some true`), drops (`some false`)
and irrelevant events (`none`) of one resource -/

def absStep (s : Span) : Option Bool → Span
  | some true => .added
  | some false => s.drop
  | none => s

def absSpan (tr : List (Option Bool)) : Span := tr.foldl absStep .unknown

/-- no creation after a drop. -/
def NoReAdd : List (Option Bool) → Prop
  | [] => True
  | some false :: rest => (some true ∉ rest) ∧ NoReAdd rest
  | _ :: rest => NoReAdd rest

theorem drop_drop (s : Span) : s.drop.drop = s.drop := by cases s <;> rfl

/-- `s.drop = .temporary` says "created in the file so far"; a step keeps it or is a creation. -/
theorem absStep_drop_temporary (s : Span) : ∀ (e : Option Bool),
    (absStep s e).drop = .temporary ↔ s.drop = .temporary ∨ some true = e
  | none => ⟨.inl, (·.resolve_right nofun)⟩
  | some true => ⟨fun _ => .inr rfl, fun _ => rfl⟩
  | some false => drop_drop s ▸ ⟨.inl, (·.resolve_right nofun)⟩

theorem foldl_absStep_drop_temporary (tr : List (Option Bool)) (s : Span) :
    (tr.foldl absStep s).drop = .temporary ↔ s.drop = .temporary ∨ some true ∈ tr := by
  induction tr generalizing s with
  | nil => simp
  | cons e es ih => rw [List.foldl_cons, ih, absStep_drop_temporary, or_assoc, List.mem_cons]

theorem absSpan_drop_temporary (tr : List (Option Bool)) : (absSpan tr).drop = .temporary ↔ some true ∈ tr :=
  (foldl_absStep_drop_temporary tr .unknown).trans (or_iff_right nofun)

/-- without a creation, a state of the form `s.drop` does not move. -/
theorem foldl_absStep_of_drop (tr : List (Option Bool)) (h : some true ∉ tr) (s : Span) :
    tr.foldl absStep s.drop = s.drop := by
  induction tr with
  | nil => rfl
  | cons e es ih =>
    have ih := ih (fun hm => h (List.mem_cons_of_mem _ hm))
    match e, h with
    | none, _ => exact ih
    | some false, _ => rw [List.foldl_cons, absStep, drop_drop]; exact ih
    | some true, h => exact absurd (List.mem_cons_self ..) h

theorem absSpan_dropEv (pre post : List (Option Bool)) (h : some true ∉ post) :
    absSpan (pre ++ some false :: post) = (absSpan pre).drop := by
  unfold absSpan
  rw [List.foldl_append, List.foldl_cons]
  exact foldl_absStep_of_drop post h _

theorem flag_iff_preexisting (pre post : List (Option Bool)) (h : some true ∉ post) :
    absSpan (pre ++ some false :: post) ≠ .temporary ↔ some true ∉ pre := by
  rw [absSpan_dropEv pre post h, Ne, absSpan_drop_temporary]

theorem noReAdd_append_drop : ∀ (pre post : List (Option Bool)), NoReAdd (pre ++ some false :: post) →
    some true ∉ post ∧ NoReAdd pre
  | [], _, h => ⟨h.1, trivial⟩
  | some false :: es, post, h =>
    have ih := noReAdd_append_drop es post h.2
    ⟨ih.1, fun hm => h.1 (List.mem_append_left _ hm), ih.2⟩
  | some true :: es, post, h | none :: es, post, h => noReAdd_append_drop es post h

theorem flag_iff_preexisting_partial (pre post : List (Option Bool)) (h : NoReAdd (pre ++ some false :: post)) :
    absSpan (pre ++ some false :: post) ≠ .temporary ↔ some true ∉ pre :=
  flag_iff_preexisting pre post (noReAdd_append_drop pre post h).1

def classT (t : TName) : Ev → Option Bool
  | .addTable t' _ => if t' = t then some true else none
  | .dropTable t' _ => if t' = t then some false else none
  | _ => none

def classC (t : TName) (c : Nat) : Ev → Option Bool
  | .addTable t' cols => if t' = t ∧ (cols.map (·.1)).contains c then some true else none
  | .addCol t' c' => if t' = t ∧ c'.1 = c then some true else none
  | .dropCol t' c' => if t' = t ∧ c'.1 = c then some false else none
  | _ => none

theorem absStep_ite (s : Span) (p : Prop) [Decidable p] (o : Option Bool) :
    absStep s (if p then o else none) = if p then absStep s o else s := by split <;> rfl

theorem tableStep_abs (t : TName) (s : Span) : ∀ e, tableStep t s e = absStep s (classT t e)
  | .addTable t' _ => (absStep_ite s (t' = t) (some true)).symm
  | .dropTable t' _ => (absStep_ite s (t' = t) (some false)).symm
  | .addCol .. | .dropCol .. | .other => rfl

theorem colStep_abs (t : TName) (c : Nat) (s : Span) : ∀ e, colStep t c s e = absStep s (classC t c e)
  | .addTable .. | .addCol .. => (absStep_ite s (_ ∧ _) (some true)).symm
  | .dropCol .. => (absStep_ite s (_ ∧ _) (some false)).symm
  | .dropTable .. | .other => rfl

theorem foldl_step_eq_absSpan {step : Span → Ev → Span} {cl : Ev → Option Bool}
    (hstep : ∀ s e, step s e = absStep s (cl e)) (evs : List Ev) :
    evs.foldl step .unknown = absSpan (evs.map cl) := by
  rw [show step = fun s e => absStep s (cl e) from funext fun s => funext (hstep s), absSpan, List.foldl_map]

theorem span_flag_iff (step : Span → Ev → Span) (cl : Ev → Option Bool)
    (hstep : ∀ s e, step s e = absStep s (cl e)) (pre post : List Ev) (d : Ev) (hd : cl d = some false)
    (h : ∀ e ∈ post, cl e ≠ some true) :
    (pre ++ d :: post).foldl step .unknown ≠ .temporary ↔ ∀ e ∈ pre, cl e ≠ some true := by
  have hmap : ∀ l : List Ev, some true ∉ l.map cl ↔ ∀ e ∈ l, cl e ≠ some true := fun l => by
    simp only [List.mem_map, not_exists, not_and, Ne]
  rw [foldl_step_eq_absSpan hstep, List.map_append, List.map_cons, hd, flag_iff_preexisting _ _ ((hmap post).mpr h),
    hmap]

theorem span_flag_iff_partial (step : Span → Ev → Span) (cl : Ev → Option Bool)
    (hstep : ∀ s e, step s e = absStep s (cl e)) (pre post : List Ev) (d : Ev) (hd : cl d = some false)
    (h : NoReAdd ((pre ++ d :: post).map cl)) :
    (pre ++ d :: post).foldl step .unknown ≠ .temporary ↔ ∀ e ∈ pre, cl e ≠ some true :=
  span_flag_iff step cl hstep pre post d hd fun e he hc =>
    (noReAdd_append_drop (pre.map cl) _ (by rwa [List.map_append, List.map_cons, hd] at h)).1
      (hc ▸ List.mem_map_of_mem (f := cl) he)

theorem table_flag_correct_partial (pre post : List Ev) (t : TName) (cols : List Col)
    (h : NoReAdd ((pre ++ Ev.dropTable t cols :: post).map (classT t))) :
    tableSpan (pre ++ Ev.dropTable t cols :: post) t ≠ .temporary ↔ ∀ e ∈ pre, classT t e ≠ some true :=
  span_flag_iff_partial _ _ (tableStep_abs t) pre post _ (if_pos rfl) h

theorem col_flag_correct_partial (pre post : List Ev) (t : TName) (c : Col)
    (h : NoReAdd ((pre ++ Ev.dropCol t c :: post).map (classC t c.1))) :
    colSpan (pre ++ Ev.dropCol t c :: post) t c.1 ≠ .temporary ↔ ∀ e ∈ pre, classC t c.1 e ≠ some true :=
  span_flag_iff_partial _ _ (colStep_abs t c.1) pre post _ (if_pos ⟨rfl, rfl⟩) h

/-- a statement that can start a rebuild match: exactly one CREATE TABLE of a `new_`-prefixed name. -/
def startsRebuild : Stmt → Bool
  | [Ev.addTable t _] => t.news != 0
  | _ => false

theorem tryMerge_no (c1 c2 c3 : Stmt) (h : startsRebuild c1 = false) : tryMerge c1 c2 c3 = .no := by
  unfold tryMerge
  split
  · rename_i t cols e2
    have : t.news = 0 := by simpa [startsRebuild] using h
    simp [this]
  · rfl

theorem mergeTemp_id : ∀ (stmts : List Stmt), (∀ s ∈ stmts, startsRebuild s = false) → mergeTemp stmts = stmts := by
  intro stmts h
  fun_induction mergeTemp stmts with
  -- four statements merged: excluded by `tryMerge_no`
  | case1 c1 _ c2 c3 _ m hm => rw [tryMerge_no c1 c2 c3 (h c1 (List.mem_cons_self ..))] at hm; cases hm
  | case2 c1 _ _ _ _ hm ih => exact congrArg (c1 :: ·) (ih fun s hs => h s (List.mem_cons_of_mem _ hs))
  -- fewer than four statements left
  | case3 c _ hn ih => exact congrArg (c :: ·) (ih fun s hs => h s (List.mem_cons_of_mem _ hs))
  | case4 => rfl

theorem rebuild_merged (t : TName) (hn : t.news ≠ 0) (curr prev c3a c3b : List Col) (x : Stmt) (rest : List Stmt) :
    mergeTemp ([.addTable t curr] :: x :: [.dropTable t.trim prev] :: [.dropTable t c3a, .addTable t.trim c3b] :: rest) =
      tableDiff t.trim prev curr :: mergeTemp rest := by
  rw [mergeTemp]
  simp [tryMerge, hn]

theorem rebuild_flags_omitted_column (t : TName) (prev curr : List Col) (c : Col)
    (hc : c ∈ prev) (ho : c.1 ∉ curr.map (·.1)) : Ev.dropCol t c ∈ tableDiff t prev curr :=
  List.mem_append_left _ (List.mem_map_of_mem (List.mem_filter.mpr
    ⟨hc, by simp only [List.contains_eq_mem, ho, decide_false, Bool.not_false]⟩))

def Additive (s : Stmt) : Prop := ∀ e ∈ s, match e with
  | .dropTable _ _ => False
  | .dropCol _ _ => False
  | _ => True

theorem stmtDiags_additive (all : List Ev) (s : Stmt) (h : Additive s) : stmtDiags all s = [] := by
  unfold stmtDiags
  rw [if_neg, if_neg]
  · rfl
  -- neither scan finds a drop: `Additive` is `False` at both drop events, and each scan is `false` off them
  all_goals
    rw [Bool.not_eq_true, List.any_eq_false]
    intro e he
    have := h e he
    cases e with
    | dropTable _ _ | dropCol _ _ => exact this.elim
    | _ => exact Bool.false_ne_true

theorem additive_statements_never_flagged (ms : List Stmt) (i : Nat) (hi : i < ms.length) (h : Additive ms[i]) :
    (analyzeMerged ms)[i]'(by simpa [analyzeMerged] using hi) = [] := by
  simp [analyzeMerged, stmtDiags_additive _ _ h]

theorem additive_file_clean (stmts : List Stmt) (h : ∀ s ∈ mergeTemp stmts, Additive s) : analyze stmts = [] := by
  unfold analyze
  simp only [List.flatMap_eq_nil_iff]
  intro p hp
  obtain ⟨s, hs, he⟩ := List.mem_map.mp (List.of_mem_zip hp).2
  rw [← he, stmtDiags_additive _ s (h s hs)]
  rfl

/-- **additive_file_clean_plain**: without rebuild candidates the hypothesis is about the statements as written. -/
theorem additive_file_clean_plain (stmts : List Stmt) (hr : ∀ s ∈ stmts, startsRebuild s = false)
    (h : ∀ s ∈ stmts, Additive s) : analyze stmts = [] :=
  additive_file_clean stmts (by rw [mergeTemp_id stmts hr]; exact h)

/-! ### known findings: the excluded case is really wrong (witnesses, replayed on the implementation) -/

def tT : TName := ⟨0, 7⟩

/-- DROP t; CREATE t; DROP t of a pre-existing table: the specification demands DS102 on the first
statement, the analyzer reports nothing. -/
theorem drop_add_drop_missed :
    analyze [[.dropTable tT [(1, false)]], [.addTable tT [(1, false)]], [.dropTable tT [(1, false)]]] = [] ∧
    spec [[.dropTable tT [(1, false)]], [.addTable tT [(1, false)]], [.dropTable tT [(1, false)]]] = [(0, .DS102)] := by decide +kernel

/-- CREATE t; DROP t; CREATE t of a new table: nothing pre-existing is destroyed, DS102 is reported. -/
theorem add_drop_add_flagged :
    analyze [[.addTable tT []], [.dropTable tT []], [.addTable tT []]] = [(1, .DS102)] ∧
    spec [[.addTable tT []], [.dropTable tT []], [.addTable tT []]] = [] := by decide +kernel

/-! ### non-vacuity -/

/-- the rebuild that omits column 2 of a pre-existing table is reported as DS103 on its first statement. -/
example : analyze [[.addTable ⟨1, 7⟩ [(1, false)]], [], [.dropTable ⟨0, 7⟩ [(1, false), (2, false)]],
    [.dropTable ⟨1, 7⟩ [(1, false)], .addTable ⟨0, 7⟩ [(1, false)]]] = [(0, .DS103)] := by decide +kernel

/-- a temporary table created and dropped in the file is not reported; a plain drop is. -/
example : analyze [[.addTable tT []], [.dropTable tT []], [.dropTable ⟨0, 8⟩ []]] = [(2, .DS102)] := by decide +kernel

example : NoReAdd ([Ev.addTable tT [], Ev.other, Ev.dropTable tT []].map (classT tT)) :=
  ⟨List.not_mem_nil, trivial⟩

example : analyze [[.addTable ⟨0, 1⟩ [(1, false)]], [.addCol ⟨0, 1⟩ (2, false)], [.other]] = [] := by decide +kernel

end Props.C18

/-
C12 — Resuming a partially applied file whose applied part changed is refused, cleanly.

Model: `Atlas.Exec.execute` (sql/migrate/migrate.go `(*Executor).Execute`), every index expression
explicit (`Res.panic`). All theorems are for every hash function `H`, every world `w` (any journal and
revisions, ANY fault schedule unless stated), every file and every edit of it. They are about
`execute true`, the repaired tree; `fixed = false` occurs only in the two `pinned_panics_*`. All read off
`execute_cases`: `never_panics`; `changed_prefix_refused`, `truncated_file_refused` (through `refused_unless_agree`);
`refused_is_clean`; `tail_edit_resumes`.
-/
import Lemmas.Exec

namespace Props.C12
open Atlas Atlas.Exec

/-- the table holds a partially applied revision for `m`'s version, written while the file consisted of `old`:
`k ≥ 1` statements applied, their cumulative hashes recorded (what `execute` persists when statement `k` fails: the
first `example` below). -/
structure PartiallyApplied (H : Text → String) (w : World) (m : MFile) (old : List Text) (k : Nat)
    (r : Revision) : Prop where
  found : findRev m.version w.revs = some r
  applied : r.applied = k
  kpos : 0 < k
  kle : k ≤ old.length
  hashes : r.partialHashes = (sums H old).take k

theorem partial_len {H : Text → String} {w : World} {m : MFile} {old : List Text} {k : Nat}
    {r : Revision} (hp : PartiallyApplied H w m old k r) : r.applied ≤ r.partialHashes.length := by
  rw [hp.hashes, hp.applied]; simp [List.length_take, hp.kle]

theorem partial_hash {H : Text → String} {w : World} {m : MFile} {old : List Text} {k : Nat}
    {r : Revision} (hp : PartiallyApplied H w m old k r) {j : Nat} (hj : j < k) :
    r.partialHashes[j]?.getD "" = H (old.take (j + 1)).flatten := by
  rw [hp.hashes, List.getElem?_take_of_lt hj, sums_get H old j (by have := hp.kle; omega)]

/-- the first bookkeeping write fails; or an applied statement `i` is gone or differs (history changed at `i + 1`,
after the deferred write); or all `k` hashes agree and the statement loop runs. -/
theorem execute_cases {H : Text → String} {w : World} {m : MFile} {old : List Text} {k : Nat}
    {r : Revision} (hp : PartiallyApplied H w m old k r) :
    (∃ w1, writeRevision w r = (w1, true) ∧ execute true H w m = (w1, .writeRev)) ∨
    ∃ w1, writeRevision w r = (w1, false) ∧
      ((∃ i, i < k ∧
          (m.stmts.length ≤ i ∨ H (m.stmts.take (i + 1)).flatten ≠ H (old.take (i + 1)).flatten) ∧
          execute true H w m = deferred w1 r (.historyChanged (i + 1) false)) ∨
       (k ≤ m.stmts.length ∧
          (∀ j, j < k → H (m.stmts.take (j + 1)).flatten = H (old.take (j + 1)).flatten) ∧
          execute true H w m = runStmts true H w1 m r)) := by
  unfold execute; rw [loadRev_some hp.found]
  rcases hW : writeRevision w r with ⟨w1, _ | _⟩
  · rw [executeFrom_ok hW]
    refine .inr ⟨w1, rfl, ?_⟩
    rcases afterStart_cases H w1 m (partial_len hp) with ⟨i, hi, hne, he⟩ | ⟨hag, he⟩
    · rw [hp.applied] at hi
      refine .inl ⟨i, hi, ?_, he⟩
      by_cases hlt : i < m.stmts.length
      · rw [sums_get H m.stmts i hlt, partial_hash hp hi] at hne
        exact hne.imp_left fun h => absurd hlt (Nat.not_lt.mpr h)
      · exact .inl (Nat.not_lt.mp hlt)
    · rw [hp.applied] at hag
      have hle : k ≤ m.stmts.length := by have := hag (k - 1) (by have := hp.kpos; omega); omega
      refine .inr ⟨hle, fun j hj => ?_, he⟩
      rw [← sums_get H m.stmts j (Nat.lt_of_lt_of_le hj hle), ← partial_hash hp hj]
      exact (hag j hj).2
  · exact .inl ⟨w1, rfl, executeFrom_fail hW⟩

/-- **never_panics**: no out-of-range index, whatever the file looks like now (also truncated) and whatever fails. -/
theorem never_panics {H : Text → String} {w : World} {m : MFile} {old : List Text} {k : Nat}
    {r : Revision} (hp : PartiallyApplied H w m old k r) :
    (execute true H w m).2 ≠ .panic := by
  rcases execute_cases hp with ⟨_, _, he⟩ | ⟨_, _, ⟨i, _, _, he⟩ | ⟨hle, _, he⟩⟩ <;> rw [he]
  · simp
  · simp [deferred]
  · exact (runStmts_res (by rw [hp.applied]; exact hle)).1

theorem refused_unless_agree {H : Text → String} {w : World} {m : MFile} {old : List Text} {k : Nat}
    {r : Revision} (hp : PartiallyApplied H w m old k r) :
    (∃ i b, (execute true H w m).2 = .historyChanged i b) ∨ (execute true H w m).2 = .writeRev ∨
    (k ≤ m.stmts.length ∧ ∀ j, j < k → H (m.stmts.take (j + 1)).flatten = H (old.take (j + 1)).flatten) := by
  rcases execute_cases hp with ⟨_, _, he⟩ | ⟨w1, _, ⟨i, _, _, he⟩ | ⟨hle, hall, _⟩⟩
  · exact .inr (.inl (by rw [he]))
  · rcases hW : writeRevision w1 r with ⟨w2, b⟩
    exact .inl ⟨_, b, by rw [he, deferred_historyChanged hW]⟩
  · exact .inr (.inr ⟨hle, hall⟩)

/-- **changed_prefix_refused**: if the first `k` statements are no longer the applied ones (edited, reordered,
removed, or fewer than `k` left), the run ends with the history-changed error – or its very first bookkeeping write
failed – unless a hash collision is exhibited. -/
theorem changed_prefix_refused {H : Text → String} {w : World} {m : MFile} {old : List Text} {k : Nat}
    {r : Revision} (hp : PartiallyApplied H w m old k r) (hch : m.stmts.take k ≠ old.take k) :
    (∃ i b, (execute true H w m).2 = .historyChanged i b) ∨ (execute true H w m).2 = .writeRev ∨
    Collision H := by
  exact (refused_unless_agree hp).imp_right (·.imp_right fun ⟨hle, hall⟩ =>
    (prefix_of_sums hp.kle hle hall).resolve_left hch)

/-- **refused_is_clean**: with a history-changed result no statement was sent and every revision lookup answers as
before. -/
theorem refused_is_clean {H : Text → String} {w : World} {m : MFile} {old : List Text} {k : Nat}
    {r : Revision} (hp : PartiallyApplied H w m old k r) {i : Nat} {b : Bool}
    (hres : (execute true H w m).2 = .historyChanged i b) :
    (execute true H w m).1.journal = w.journal ∧ (execute true H w m).1.calls = w.calls ∧
    ∀ v, findRev v (execute true H w m).1.revs = findRev v w.revs := by
  rcases execute_cases hp with ⟨_, _, he⟩ | ⟨w1, hW, ⟨i', _, _, he⟩ | ⟨hle, _, he⟩⟩ <;> rw [he] at hres ⊢
  · cases hres
  · -- two writes of the revision that was read: the "started" one and the deferred one
    rcases hW2 : writeRevision w1 r with ⟨w2, b2⟩
    have hl := writeRevision_same hW hp.found
    have hl2 := writeRevision_same hW2 ((hl _).trans hp.found)
    obtain ⟨hc, _, hj⟩ := writeRevision_frame hW
    obtain ⟨hc2, _, hj2⟩ := writeRevision_frame hW2
    rw [deferred_historyChanged hW2]
    exact ⟨hj2.trans hj, hc2.trans hc, fun v => (hl2 v).trans (hl v)⟩
  · exact absurd hres ((runStmts_res (by rw [hp.applied]; exact hle)).2 i b)

/-- **tail_edit_resumes**: if only the not-yet-applied tail was edited (to any length), a run without faults executes
exactly the new tail and records the file as complete with the *new* statement count. -/
theorem tail_edit_resumes {H : Text → String} {w : World} {m : MFile} {old : List Text} {k : Nat}
    {r : Revision} (hp : PartiallyApplied H w m old k r) (hkn : k ≤ m.stmts.length)
    (hsame : m.stmts.take k = old.take k) (hnf : w.faults = []) :
    (execute true H w m).2 = .ok ∧
    (execute true H w m).1.journal = w.journal ++ m.stmts.drop k ∧
    (execute true H w m).1.calls = w.calls ++ m.stmts.drop k ∧
    ∃ r', findRev m.version (execute true H w m).1.revs = some r' ∧
      r'.applied = m.stmts.length ∧ r'.total = m.stmts.length ∧ r'.partialHashes = [] := by
  rcases execute_cases hp with ⟨_, hW, _⟩ | ⟨w1, hW, ⟨i, hi, hne, _⟩ | ⟨_, _, he⟩⟩
  · exact absurd hnf (writeRevision_fail hW).2.2
  · have : m.stmts.take (i + 1) = old.take (i + 1) := by
      have := congrArg (List.take (i + 1)) hsame
      rwa [List.take_take, List.take_take, Nat.min_eq_left hi] at this
    rcases hne with h | h
    · exact absurd (Nat.lt_of_lt_of_le hi hkn) (Nat.not_lt.mpr h)
    · exact absurd (by rw [this]) h
  · obtain ⟨hc, hf, hj⟩ := writeRevision_frame hW
    rw [he, ← hj, ← hc, ← hp.applied, ← (findRev_mem hp.found).2]
    exact runStmts_nofault (by rw [hp.applied]; exact hkn) (hf.trans hnf)

/-- **truncated_file_refused**: a file that now holds fewer statements than were applied is never resumed (the
disjuncts of `changed_prefix_refused`). -/
theorem truncated_file_refused {H : Text → String} {w : World} {m : MFile} {old : List Text} {k : Nat}
    {r : Revision} (hp : PartiallyApplied H w m old k r) (hshort : m.stmts.length < k) :
    (∃ i b, (execute true H w m).2 = .historyChanged i b) ∨ (execute true H w m).2 = .writeRev ∨
    Collision H := by
  exact (refused_unless_agree hp).imp_right (·.imp_right fun ⟨hle, _⟩ => absurd hle (by omega))

/-! ### non-vacuity -/

/-- an (injective, for these inputs) toy hash used only by the examples below. -/
def toyH : Text → String := fun t => String.ofList t

def fileOld : MFile := { name := "1_a.sql", version := "1", desc := "a", stmts := ["A;".toList, "B;".toList, "C;".toList] }

/-- statement 2 (0-based) of `fileOld` fails: operations are write, stmt, write, stmt, write, stmt. -/
def afterFailure : World := (execute true toyH { faults := [5] } fileOld).1

/-- the hypotheses are met by a reachable state: after the third statement of a three-statement file failed, the
table holds exactly the `PartiallyApplied` revision (k = 2). -/
example : PartiallyApplied toyH { afterFailure with tick := 0, faults := [] } fileOld fileOld.stmts 2
    ((findRev "1" afterFailure.revs).getD default) :=
  { found := by decide +kernel, applied := by decide +kernel, kpos := by decide +kernel, kle := by decide +kernel, hashes := by decide +kernel }

/-! ### witnesses on the pinned commit -/

/-- counterexample 1 (`fixed = false`, comparison `i > len(sums)`): the file is truncated to one statement after two
were applied ⇒ index out of range. -/
theorem pinned_panics_on_truncation :
    (execute false toyH { afterFailure with tick := 0, faults := [] }
      { fileOld with stmts := ["A;".toList] }).2 = .panic := by decide +kernel

/-- … and the repaired comparison reports the history-changed error for the same input. -/
example : (execute true toyH { afterFailure with tick := 0, faults := [] }
      { fileOld with stmts := ["A;".toList] }).2 = .historyChanged 2 false := by decide +kernel

/-- counterexample 2: the tail is edited to a different number of statements; the resume succeeds but leaves
`Applied ≠ Total` with no partial hashes, and the next run crashes indexing them. -/
theorem pinned_panics_after_tail_edit :
    let edited : MFile := { fileOld with stmts := ["A;".toList, "B;".toList] }
    let resumed := (execute false toyH { afterFailure with tick := 0, faults := [] } edited).1
    (execute false toyH { resumed with tick := 0 } edited).2 = .panic := by decide +kernel

end Props.C12

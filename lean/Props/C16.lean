/-
C16 — Schema-scoped plans are schema-agnostic; a requested qualifier is always used.

Model: `Atlas.Qualify` (Builder.mayQualify / Table / TableColumn / TableResource / SchemaResource /
RefTable, PostgreSQL typeIdent, CheckChangesScope). The correspondence run compares the model with the
real Builder (through the `verif` bridge) and checks, on the plans of the real MySQL and PostgreSQL
planners for schemas carrying a marker name, that no statement or reverse statement mentions the
marker under an empty qualifier and that every table / type reference carries exactly the custom one.

Proved (all names, all qualifiers):
* identifiers: `no_own_schema`, `type_no_own_schema` (empty qualifier), `custom_used`, `type_custom_used` (custom
  one), `reftable_same_schema`, `reftable_other_schema`, `reftable_custom` (referenced tables);
* the scope check, in any position and order, for every qualifier and mode: `scope_rejects_add_drop`,
  `scope_rejects_deferred_modify`, `scope_rejects_two_schemas`, and no false refusal `scope_accepts_one_schema`;
  all of them from `checkScope_eq_true` (Lemmas/Qualify.lean), which says exactly which change sets pass;
  `scopeGo_collects`, `foldl_dstep` are about the collected names and their de-duplication;
* known finding: `object_schema_not_counted`;
* the TiDB planner at the pinned commit checked one change at a time: `pinned_tidb_two_schemas`,
  `whole_set_implies_per_change`.

PARTIAL: that every identifier-printing site of the planners goes through these functions is not proved;
it is what the marker-schema run observes. `checkScope_eq_true` is exact for the model: the enum-column loop of
`CheckChangesScope` (plan.go) is not modelled.
-/
import Lemmas.Qualify

namespace Props.C16
open Atlas Atlas.Qualify

/-- **no_own_schema**: under the empty qualifier the identifier is just the object path. -/
theorem no_own_schema (schemaName top : Text) (children : List Text) :
    mayQualify (some []) schemaName top children = top :: children := by
  simp [mayQualify, prefixOf]

theorem type_no_own_schema (schemaName name : Text) : typeIdent (some []) schemaName name = [name] := by
  simp [typeIdent, prefixOf]

/-- **custom_used**: a custom qualifier prefixes every identifier, instead of the own schema. -/
theorem custom_used (q : Text) (hq : q ≠ []) (schemaName top : Text) (children : List Text) :
    mayQualify (some q) schemaName top children = q :: top :: children := by
  cases q with
  | nil => exact absurd rfl hq
  | cons c cs => simp [mayQualify, prefixOf]

theorem type_custom_used (q : Text) (hq : q ≠ []) (schemaName name : Text) :
    typeIdent (some q) schemaName name = [q, name] := by
  cases q with
  | nil => exact absurd rfl hq
  | cons c cs => simp [typeIdent, prefixOf]

/-- **reftable_same_schema**, **reftable_other_schema**: under the empty qualifier a referenced table in the
same schema is not qualified; one in another named schema is. -/
theorem reftable_same_schema (s parent : Text) : refTable (some []) s s parent = [parent] := by
  simp [refTable, mayQualify, prefixOf]

theorem reftable_other_schema (c p parent : Text) (hc : c ≠ []) (hp : p ≠ []) (hne : c ≠ p) :
    refTable (some []) c p parent = [p, parent] := by
  have h1 : c.isEmpty = false := by cases c <;> simp_all
  have h2 : p.isEmpty = false := by cases p <;> simp_all
  simp [refTable, h1, h2, hne]

theorem reftable_custom (q : Text) (hq : q ≠ []) (c p parent : Text) :
    refTable (some q) c p parent = [q, parent] := by
  have : (some q == some ([] : Text)) = false := by
    cases q with
    | nil => exact absurd rfl hq
    | cons a b => simp
  simp [refTable, this, custom_used q hq]

/-- the step of `dedup`'s fold. -/
def dstep (acc : List Text) (x : Text) : List Text := if acc.contains x then acc else acc ++ [x]

theorem dedup_eq (l : List Text) : dedup l = l.foldl dstep [] := rfl

theorem foldl_dstep : ∀ (l acc : List Text), acc.Nodup →
    (l.foldl dstep acc).Nodup ∧ ∀ x, x ∈ l.foldl dstep acc ↔ (x ∈ acc ∨ x ∈ l) :=
  foldl_dedup

/-- **scope_rejects_add_drop**: AddSchema / DropSchema anywhere in ANY change set is rejected. -/
theorem scope_rejects_add_drop (q : Qualifier) (ip : Bool) (cs : List ScopeCh) (c : ScopeCh)
    (hc : c = .addSchema ∨ c = .dropSchema) (hmem : c ∈ cs) : checkScope q ip cs = false :=
  checkScope_of_rejected hmem (by rcases hc with rfl | rfl <;> rfl)

/-- a schema modification outside in-place mode is rejected wherever it stands. -/
theorem scope_rejects_deferred_modify (q : Qualifier) (n : Text) :
    ∀ (cs : List ScopeCh), ScopeCh.modifySchema n ∈ cs → checkScope q false cs = false :=
  fun _ hmem => checkScope_of_rejected hmem rfl

/-- every named schema of a table change ends up in the collected names (when the loop completes). -/
theorem scopeGo_collects (scope : Text) (ip : Bool) : ∀ (cs : List ScopeCh) (acc names : List Text),
    scopeGo scope ip cs acc = some names →
    (∀ x ∈ acc, x ∈ names) ∧ ∀ s, ScopeCh.table s ∈ cs → s ≠ [] → s ∈ names := by
  intro cs acc names h
  rw [scopeGo_eq] at h
  split at h
  · cases h
  · cases h
    refine ⟨fun x hx => List.mem_append_left _ hx, fun s hm hs => List.mem_append_right _ ?_⟩
    exact List.mem_flatMap.mpr ⟨_, hm, mem_namesOf.mpr (.inr ⟨rfl, hs⟩)⟩

/-- **scope_rejects_two_schemas**: ANY change set holding table changes in two different named schemas is
rejected, whatever else it holds. -/
theorem scope_rejects_two_schemas (q : Qualifier) (ip : Bool) (cs : List ScopeCh) (a b : Text)
    (ha : a ≠ []) (hb : b ≠ []) (hab : a ≠ b) (hma : ScopeCh.table a ∈ cs) (hmb : ScopeCh.table b ∈ cs) :
    checkScope q ip cs = false :=
  Bool.eq_false_iff.mpr fun h => hab (((checkScope_eq_true q ip cs).mp h).2
    _ hma a (mem_namesOf.mpr (.inr ⟨rfl, ha⟩)) _ hmb b (mem_namesOf.mpr (.inr ⟨rfl, hb⟩)))

example : checkScope (some []) false [.table "s".toList, .table "s".toList, .other] = true := by decide +kernel

/-- premises of `scope_rejects_two_schemas` are satisfiable and the conclusion is not trivial. -/
example : checkScope (some []) false [.other, .table "a".toList, .object "a".toList, .table "b".toList] = false := by
  decide +kernel

/-- a change that stays inside schema `s` (or is not looked at by the scope check). -/
def Within (s : Text) : ScopeCh → Prop
  | .table n => n = s
  | .object _ => True
  | .other => True
  | _ => False

theorem not_rejected_of_within {s scope : Text} {ip : Bool} {c : ScopeCh} (h : Within s c) :
    rejected scope ip c = false := by
  cases c with
  | table _ | object _ | other => rfl
  | _ => exact False.elim h

theorem namesOf_of_within {s : Text} {c : ScopeCh} (h : Within s c) : ∀ x ∈ namesOf c, x = s := by
  intro x hx
  rcases mem_namesOf.mp hx with rfl | ⟨rfl, _⟩
  · exact False.elim h
  · exact h

/-- **scope_accepts_one_schema**: a change set of any length whose table changes all lie in one schema, together
with any enum / other changes, passes. -/
theorem scope_accepts_one_schema (q : Qualifier) (ip : Bool) (s : Text) (cs : List ScopeCh)
    (h : ∀ c ∈ cs, Within s c) : checkScope q ip cs = true := by
  refine (checkScope_eq_true q ip cs).mpr ⟨List.any_eq_false.mpr fun c hc => ?_, fun c hc a ha d hd b hb => ?_⟩
  · rw [not_rejected_of_within (h c hc)]; exact Bool.false_ne_true
  · exact (namesOf_of_within (h c hc) a ha).trans (namesOf_of_within (h d hd) b hb).symm

/-- **object_schema_not_counted**: KNOWN FINDING `enum-schema-not-scoped`; the schema of an object
change (AddObject / DropObject / ModifyObject of an enum type) is not collected, so a change set with an
enum of schema `a` and a table of schema `b` passes the scope check: the property's "changes that span
two schemas are rejected" does not hold for schema-level objects. Pinned by the upstream unit test
TestPlanChanges/50 (enum of schema "ignored", table of schema "test1"), so it cannot be repaired without
editing the test suite. -/
theorem object_schema_not_counted (q : Qualifier) (ip : Bool) (a b : Text) :
    checkScope q ip [.object a, .table b] = true :=
  scope_accepts_one_schema q ip b _ fun c hc => by
    rcases List.mem_cons.mp hc with rfl | hc
    · trivial
    · exact List.mem_singleton.mp hc ▸ rfl

example : checkScope none false [.table ['a'], .object ['b'], .other, .table ['a']] = true := by decide +kernel

theorem checkScope_single (q : Qualifier) (ip : Bool) {s : Text} {c : ScopeCh} (hc : Within s c) :
    checkScope q ip [c] = true :=
  scope_accepts_one_schema q ip s [c] fun _ h => List.mem_singleton.mp h ▸ hc

/-! ### the TiDB planner (plans every atomic change on its own) -/

/-- the scope check as the pinned TiDB planner performed it: every atomic change is handed to the MySQL
planner alone, so the check sees one change at a time. -/
def perChangeScope (q : Qualifier) (ip : Bool) (cs : List ScopeCh) : Bool := cs.all (fun c => checkScope q ip [c])

/-- **pinned_tidb_two_schemas**: repaired by `7d8266a`; checked one change at a time, table changes in two
different schemas are accepted although the check of the whole set rejects them. -/
theorem pinned_tidb_two_schemas (q : Qualifier) (ip : Bool) (a b : Text) (ha : a ≠ []) (hb : b ≠ [])
    (hab : a ≠ b) :
    perChangeScope q ip [.table a, .table b] = true ∧ checkScope q ip [.table a, .table b] = false := by
  refine ⟨?_, scope_rejects_two_schemas q ip _ a b ha hb hab (List.mem_cons_self ..)
    (List.mem_cons_of_mem _ (List.mem_cons_self ..))⟩
  simp only [perChangeScope, List.all_cons, List.all_nil, Bool.and_true, Bool.and_eq_true]
  exact ⟨checkScope_single q ip (c := .table a) rfl, checkScope_single q ip (c := .table b) rfl⟩

/-- **whole_set_implies_per_change**: table / object / other changes (schema changes are decided alone anyway);
`_h` is not needed. -/
theorem whole_set_implies_per_change (q : Qualifier) (ip : Bool) (cs : List ScopeCh)
    (hcs : ∀ c ∈ cs, (∃ s, c = .table s) ∨ (∃ s, c = .object s) ∨ c = .other)
    (_h : checkScope q ip cs = true) : perChangeScope q ip cs = true := by
  unfold perChangeScope
  rw [List.all_eq_true]
  intro c hc
  rcases hcs c hc with ⟨s, rfl⟩ | ⟨s, rfl⟩ | rfl
  · exact checkScope_single q ip (s := s) (c := .table s) rfl
  · exact checkScope_single q ip (s := []) (c := .object s) trivial
  · exact checkScope_single q ip (s := []) (c := .other) trivial

end Props.C16

/-
C17 — Reverse statements undo the plan: up then down restores the original schema.

Model: `Atlas.Reverse` — statements acting on an abstract database, the reverses the SQLite planner
attaches to each statement kind of the model, `SetReversible`, running a plan up and its reverse statements
down (changes in reverse order). The down file is `Props.C07.downStmts_spec` (over `Atlas.Format`; `down_order`
is the same equation for `Atlas.Reverse.downStmts`), compared with every real formatter by the correspondence run.

Proved (plans of any length, databases of any size):
* `down_up` — if every change's reverse undoes its statement in the state where it runs (`Valid`), the plan
  followed by all reverse statements in reverse order restores the database exactly;
* `applicable_undoes` — each reverse the planner attaches undoes its statement where the statement applies
  (the table does not exist yet / exists with the recorded definition / lacks the column or index / has the index);
* `reversible_iff`, `irreversible_never_reversible` — reported reversible iff every change has reverse
  statements; never with a rebuild or a dropped column;
* `planner_plan_restores`, `planner_plan_reversible`, `planner_plan_irreversible` — the same for whole plans
  of the planner (`planFrom`), from `down_up` with `applicable_undoes`, and `reversible_iff`;
* `down_order` — the reverse statements run change by change from the last to the first, each change's in order.

MySQL / PostgreSQL (last section): one ALTER TABLE statement gathers several changes and the planner folds a
`reversible` flag over them (`Atlas.Reverse.alterFlag`, `alterInv`): `alter_flag_iff`, `alter_flag_compositional`,
`alter_flag_perm`, `alter_flag_append`, `alter_reversible_iff_table`, `unnamed_check_never_reversible`.

PARTIAL: RENAME TABLE, RENAME COLUMN and the `sqlite_sequence` statement, which also get reverses
(sql/sqlite/migrate.go: renameTable, alterTable, tableSeq), are not modelled; that the real planners attach
exactly these reverses and that SQLite executes them with this effect is decided by the correspondence run
(statement kinds of Cmd/Reverse of every planned change) and by executing up and down on a real engine.
-/
import Atlas.Reverse

namespace Props.C17
open Atlas.Reverse

def Undoes (c : Change) (s : Db) : Prop := c.reverse.foldl exec (exec s c.cmd) = s

def Valid : Db → List Change → Prop
  | _, [] => True
  | s, c :: p => Undoes c s ∧ Valid (exec s c.cmd) p

theorem downStmts_cons (c : Change) (p : List Change) : downStmts (c :: p) = downStmts p ++ c.reverse := by
  simp [downStmts, List.flatMap_append]

theorem down_up : ∀ (p : List Change) (s : Db), Valid s p → down (up s p) p = s := by
  intro p
  induction p with
  | nil => intro s _; rfl
  | cons c p ih =>
    intro s ⟨hu, hv⟩
    show (downStmts (c :: p)).foldl exec (up (exec s c.cmd) p) = s
    rw [downStmts_cons, List.foldl_append]
    exact (congrArg (c.reverse.foldl exec) (ih _ hv)).trans hu

theorem down_order (p : List Change) : downStmts p = (p.reverse.map (·.reverse)).flatten := by
  simp [downStmts, List.flatMap]

/-- **reversible_iff**: `SetReversible`. -/
theorem reversible_iff (p : List Change) : reversible p = true ↔ ∀ c ∈ p, c.reverse ≠ [] := by
  simp only [reversible, List.all_eq_true, Bool.not_eq_true', List.isEmpty_eq_false_iff, ne_eq]

theorem not_reversible_of_mem (p : List Change) (c : Change) (hc : c ∈ p) (h : c.reverse = []) :
    reversible p = false :=
  Bool.eq_false_iff.mpr fun hr => (reversible_iff p).mp hr c hc h

theorem irreversible_never_reversible (p : List Change) (c : Change) (hc : c ∈ p)
    (h : (∃ n d old, c = ⟨.rebuild n d, plannerReverse old (.rebuild n d)⟩) ∨
         (∃ n col old, c = ⟨.dropColumn n col, plannerReverse old (.dropColumn n col)⟩)) :
    reversible p = false :=
  not_reversible_of_mem p c hc (by rcases h with ⟨n, d, old, rfl⟩ | ⟨n, col, old, rfl⟩ <;> rfl)

/-! ### whole plans of the planner: applicable statements ⇒ up then down is the identity -/

def tableOf : Stmt → Nat
  | .createTable n _ | .dropTable n | .addColumn n _ | .dropColumn n _
  | .createIndex n _ | .dropIndex n _ | .rebuild n _ => n

/-- the planner's plan from state `s`: every statement carries the planner's reverse, computed from the
table as it is when the statement runs. -/
def planFrom : Db → List Stmt → List Change
  | _, [] => []
  | s, c :: cs => ⟨c, plannerReverse (s (tableOf c)) c⟩ :: planFrom (exec s c) cs

/-- a reversible kind that applies to the state (what the differ guarantees: a created table does not
exist, a dropped one does, an added column / index is new, a dropped index exists). -/
def Applicable (s : Db) : Stmt → Prop
  | .createTable n _ => s n = none
  | .dropTable n => ∃ d, s n = some d
  | .addColumn n c => ∃ d, s n = some d ∧ c ∉ d.cols
  | .createIndex n i => ∃ d, s n = some d ∧ d.idxs i = false
  | .dropIndex n i => ∃ d, s n = some d ∧ d.idxs i = true
  | .dropColumn _ _ => False
  | .rebuild _ _ => False

def AllApplicable : Db → List Stmt → Prop
  | _, [] => True
  | s, c :: cs => Applicable s c ∧ AllApplicable (exec s c) cs

theorem set_get (s : Db) (n : Nat) (a : Option TDef) : (s.set n a) n = a := if_pos rfl

theorem set_set (s : Db) (n : Nat) (a b : Option TDef) : (s.set n a).set n b = s.set n b := by
  funext m; simp only [Db.set]; split <;> rfl

theorem set_self (s : Db) (n : Nat) : s.set n (s n) = s := by
  funext m; simp only [Db.set]; split
  · next h => rw [h]
  · rfl

/-- writing its old value back undoes any change of table `n`. -/
theorem set_set_old (s : Db) (n : Nat) (a b : Option TDef) (h : s n = b) : (s.set n a).set n b = s := by
  rw [set_set, ← h, set_self]

theorem cols_add_drop (cols : List Nat) (c : Nat) (hc : c ∉ cols) : (cols ++ [c]).filter (· != c) = cols := by
  have h : cols.filter (· != c) = cols :=
    List.filter_eq_self.mpr fun x hx => bne_iff_ne.mpr fun he => hc (he ▸ hx)
  simp [List.filter_append, h]

theorem idxs_add_drop (f : Nat → Bool) (i : Nat) (hi : f i = false) : (fun j => j != i && (j == i || f j)) = f := by
  funext j
  cases hji : j == i with
  | false => simp [bne, hji]
  | true => rw [eq_of_beq hji]; simp [hi]

theorem idxs_drop_add (f : Nat → Bool) (i : Nat) (hi : f i = true) : (fun j => j == i || (j != i && f j)) = f := by
  funext j
  cases hji : j == i with
  | false => simp [bne, hji]
  | true => rw [eq_of_beq hji]; simp [hi]

theorem applicable_undoes (s : Db) (c : Stmt) (h : Applicable s c) :
    Undoes ⟨c, plannerReverse (s (tableOf c)) c⟩ s := by
  unfold Undoes
  cases c with
  | createTable n d => exact set_set_old s n _ _ h
  | dropTable n =>
    obtain ⟨d, hd⟩ := h
    simp only [tableOf, hd, plannerReverse]
    exact set_set_old s n _ _ hd
  | addColumn n c | createIndex n c | dropIndex n c =>
    obtain ⟨d, hd, hx⟩ := h
    simp only [plannerReverse, List.foldl, exec, hd, set_get, cols_add_drop, idxs_add_drop, idxs_drop_add, hx,
      not_false_eq_true]
    -- each add/drop fact fires in its own case (side condition `hx`); the record written back is `d` by eta
    show (s.set n _).set n (some d) = s
    exact set_set_old s n _ _ hd
  | dropColumn n c | rebuild n d => exact h.elim

theorem planFrom_valid (cs : List Stmt) (s : Db) (h : AllApplicable s cs) : Valid s (planFrom s cs) := by
  induction cs generalizing s with
  | nil => trivial
  | cons c cs ih => exact ⟨applicable_undoes s c h.1, ih (exec s c) h.2⟩

theorem planner_plan_restores (cs : List Stmt) (s : Db) (h : AllApplicable s cs) :
    down (up s (planFrom s cs)) (planFrom s cs) = s :=
  down_up _ s (planFrom_valid cs s h)

theorem plannerReverse_ne_nil (s : Db) (c : Stmt) (h : Applicable s c) : plannerReverse (s (tableOf c)) c ≠ [] := by
  cases c with
  | dropTable n => obtain ⟨d, hd⟩ := h; simp only [tableOf, hd, plannerReverse]; exact List.cons_ne_nil _ _
  | dropColumn n c => exact h.elim
  | rebuild n d => exact h.elim
  | _ => exact List.cons_ne_nil _ _

theorem planner_plan_reversible : ∀ (cs : List Stmt) (s : Db), AllApplicable s cs →
    reversible (planFrom s cs) = true
  | [], _, _ => rfl
  | c :: cs, s, h => by
    show (!(plannerReverse (s (tableOf c)) c).isEmpty && reversible (planFrom (exec s c) cs)) = true
    rw [planner_plan_reversible cs _ h.2, Bool.and_true, Bool.not_eq_true', List.isEmpty_eq_false_iff]
    exact plannerReverse_ne_nil s c h.1

theorem planFrom_mem (pre post : List Stmt) (c : Stmt) (s : Db) :
    ∃ old, (⟨c, plannerReverse old c⟩ : Change) ∈ planFrom s (pre ++ c :: post) := by
  induction pre generalizing s with
  | nil => exact ⟨_, List.mem_cons_self ..⟩
  | cons a as ih => exact (ih (exec s a)).imp fun _ h => List.mem_cons_of_mem _ h

theorem planner_plan_irreversible (pre post : List Stmt) (s : Db) (c : Stmt)
    (hc : (∃ n d, c = .rebuild n d) ∨ (∃ n col, c = .dropColumn n col)) :
    reversible (planFrom s (pre ++ c :: post)) = false := by
  obtain ⟨old, hm⟩ := planFrom_mem pre post c s
  exact not_reversible_of_mem _ _ hm (by rcases hc with ⟨n, d, rfl⟩ | ⟨n, col, rfl⟩ <;> rfl)

-- per-kind instances of `applicable_undoes`
theorem createTable_undone (s : Db) (n : Nat) (d : TDef) (h : s n = none) :
    Undoes ⟨.createTable n d, plannerReverse none (.createTable n d)⟩ s :=
  applicable_undoes s (.createTable n d) h

theorem dropTable_undone (s : Db) (n : Nat) (d : TDef) (h : s n = some d) :
    Undoes ⟨.dropTable n, plannerReverse (some d) (.dropTable n)⟩ s :=
  h ▸ applicable_undoes s (.dropTable n) ⟨d, h⟩

theorem addColumn_undone (s : Db) (n c : Nat) (d : TDef) (h : s n = some d) (hc : c ∉ d.cols) :
    Undoes ⟨.addColumn n c, plannerReverse none (.addColumn n c)⟩ s :=
  applicable_undoes s (.addColumn n c) ⟨d, h, hc⟩

theorem createIndex_undone (s : Db) (n i : Nat) (d : TDef) (h : s n = some d) (hi : d.idxs i = false) :
    Undoes ⟨.createIndex n i, plannerReverse none (.createIndex n i)⟩ s :=
  applicable_undoes s (.createIndex n i) ⟨d, h, hi⟩

theorem dropIndex_undone (s : Db) (n i : Nat) (d : TDef) (h : s n = some d) (hi : d.idxs i = true) :
    Undoes ⟨.dropIndex n i, plannerReverse none (.dropIndex n i)⟩ s :=
  applicable_undoes s (.dropIndex n i) ⟨d, h, hi⟩

/-! ### non-vacuity -/

def db0 : Db := fun n => if n = 1 then some { cols := [1, 2], idxs := fun i => i == 10 } else none

def planA : List Change :=
  [⟨.createTable 2 { cols := [5], idxs := fun _ => false }, plannerReverse none (.createTable 2 { cols := [5], idxs := fun _ => false })⟩,
   ⟨.addColumn 1 3, plannerReverse none (.addColumn 1 3)⟩,
   ⟨.createIndex 1 11, plannerReverse none (.createIndex 1 11)⟩,
   ⟨.dropIndex 1 10, plannerReverse none (.dropIndex 1 10)⟩]

example : reversible planA = true := by decide

/-- the example plan satisfies `Valid` from `db0` (so `down_up` applies to it). -/
example : Valid db0 planA :=
  planFrom_valid [.createTable 2 _, .addColumn 1 3, .createIndex 1 11, .dropIndex 1 10] db0
    ⟨rfl, ⟨_, rfl, by decide⟩, ⟨_, rfl, rfl⟩, ⟨_, rfl, rfl⟩, trivial⟩

/-- non-vacuity: create a table, add a column to it, drop another table — from `db0`. -/
def stmtsB : List Stmt :=
  [.createTable 2 { cols := [5], idxs := fun _ => false }, .addColumn 2 6, .dropTable 1]

example : AllApplicable db0 stmtsB :=
  ⟨rfl, ⟨_, rfl, by decide⟩, ⟨_, rfl⟩, trivial⟩

/-! ### MySQL / PostgreSQL: the `reversible` flag of one ALTER TABLE statement -/

theorem alterFlag_eq_all {α : Type} (inv : α → Bool) (cs : List α) : alterFlag inv cs = cs.all inv := by
  suffices ∀ b, cs.foldl (fun r c => r && inv c) b = (b && cs.all inv) from (this true).trans (Bool.true_and _)
  induction cs with
  | nil => intro b; exact (Bool.and_true b).symm
  | cons c cs ih => intro b; rw [List.foldl_cons, ih, List.all_cons, Bool.and_assoc]

/-- **alter_flag_iff**: reported reversible exactly when every change in the statement is invertible. -/
theorem alter_flag_iff {α : Type} (inv : α → Bool) (cs : List α) :
    alterFlag inv cs = true ↔ ∀ c ∈ cs, inv c = true := by
  rw [alterFlag_eq_all, List.all_eq_true]

/-- **alter_flag_compositional**: the conjunction of the single-change flags (what the correspondence run
observes through the real planners). -/
theorem alter_flag_compositional {α : Type} (inv : α → Bool) (cs : List α) :
    alterFlag inv cs = cs.all (fun c => alterFlag inv [c]) := by
  simp only [alterFlag_eq_all, List.all_cons, List.all_nil, Bool.and_true]

/-- **alter_flag_perm**: the order of the changes does not matter. -/
theorem alter_flag_perm {α : Type} (inv : α → Bool) (cs ds : List α) (h : cs.Perm ds) :
    alterFlag inv cs = alterFlag inv ds := by
  rw [alterFlag_eq_all, alterFlag_eq_all, h.all_eq]

/-- **alter_flag_append**: adding changes never turns an irreversible statement into a reversible one. -/
theorem alter_flag_append {α : Type} (inv : α → Bool) (cs ds : List α) (h : alterFlag inv cs = false) :
    alterFlag inv (cs ++ ds) = false ∧ alterFlag inv (ds ++ cs) = false := by
  rw [alterFlag_eq_all] at h
  rw [alterFlag_eq_all, alterFlag_eq_all, List.all_append, List.all_append, h, Bool.false_and, Bool.and_false]
  exact ⟨rfl, rfl⟩

/-- non-vacuity: an unnamed check (not invertible) followed by a named one. -/
example : alterFlag (fun (named : Bool) => named) [false, true] = false ∧
    alterFlag (fun (named : Bool) => named) [true, true] = true := by decide

/-- **alter_reversible_iff_table**: reversible exactly when it adds no unnamed CHECK and – PostgreSQL –
drops no generation expression. -/
theorem alter_reversible_iff_table (pg : Bool) (cs : List AlterCh) :
    alterFlag (alterInv pg) cs = true ↔
      AlterCh.addCheck false ∉ cs ∧ (pg = true → AlterCh.modifyColumn true ∉ cs) := by
  rw [alter_flag_iff]
  constructor
  · exact fun h => ⟨fun hm => (nomatch h _ hm), fun hp hm => by subst hp; exact nomatch h _ hm⟩
  · intro ⟨h1, h2⟩ c hc
    match c, pg, h2 with
    | .addCheck true, _, _ | .other, _, _ => rfl
    | .addCheck false, _, _ => exact absurd hc h1
    | .modifyColumn false, pg, _ => cases pg <;> rfl
    | .modifyColumn true, false, _ => rfl
    | .modifyColumn true, true, h2 => exact absurd hc (h2 rfl)

/-- **unnamed_check_never_reversible**: whatever else the statement holds, for every dialect. -/
theorem unnamed_check_never_reversible (pg : Bool) (cs : List AlterCh) (h : AlterCh.addCheck false ∈ cs) :
    alterFlag (alterInv pg) cs = false := by
  cases hf : alterFlag (alterInv pg) cs with
  | false => rfl
  | true => exact absurd h ((alter_reversible_iff_table pg cs).mp hf).1

example : alterFlag (alterInv true) [.other, .addCheck true, .modifyColumn false] = true ∧
    alterFlag (alterInv true) [.other, .addCheck false, .addCheck true] = false ∧
    alterFlag (alterInv true) [.modifyColumn true] = false ∧ alterFlag (alterInv false) [.modifyColumn true] = true := by decide

end Props.C17

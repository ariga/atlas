/-
C15 — HCL round trip returns an equivalent schema, for every dialect and column type.

Model: `Atlas.HclType` — the generic integer-attribute mechanism of schemahcl.TypeRegistry (Convert's
trailing-zero elision with the repaired "explicit" rule, and the reader that fills absent trailing
parameters with the dialect's defaults). The correspondence run compares `toAttrs` with the real
`TypeRegistry.Convert` for every registered type spec of the three dialects x parameter grid, and
decides the schema-level statement (MarshalHCL -> EvalHCLBytes -> diff both ways -> re-marshal) and
the FormatType/ParseType fixpoint on the whole type catalogue and attribute grid.

Proved here (attribute lists of any length):
* `written_prefix` — what is written is a prefix of the values;
* `roundtrip_elided` — reading back what was written returns the original values, provided every elided
  position (value 0, not explicit) has dialect default 0 and `defaults` is no longer than the values;
  `roundtrip` asks it of every position holding an implicit zero, and equal lengths;
* `roundtrip_all_explicit` — with all values explicit nothing is elided: unconditional;
* `last_kept_writes_all` / `explicit_last_zero_written` — a last parameter that is explicit or not zero makes
  every parameter written; so an explicit zero in last position is written whatever precedes it;
* `remarshal_same_bytes` — under the hypothesis of `roundtrip`, writing what was read back (with the
  explicitness the reader restores) gives the same attribute list again;
* `pinned_loses_explicit_zero` — on the pinned tree an explicit zero in last position was elided and read
  back as the dialect's default (timestamp(0) -> timestamp = timestamp(6)); the repaired rule keeps it.

PARTIAL: only the integer-attribute mechanism is modelled; FormatType/ParseType of the dialects, the
spec conversion of tables/columns/indexes/keys and the differ are exercised on the implementation
(catalogue + grids), not proved.
-/
import Atlas.HclType

namespace Props.C15
open Atlas.HclType

theorem toAttrs_spec (vals : List AttrVal) :
    ∃ kept k, vals = kept ++ List.replicate k (0, false) ∧ toAttrs vals = kept.map (·.1) := by
  unfold toAttrs
  induction vals with
  | nil => exact ⟨[], 0, rfl, rfl⟩
  | cons x xs ih =>
    obtain ⟨kept, k, rfl, hk⟩ := ih
    rw [dropTrailing, hk]
    cases kept with
    | cons y ys => exact ⟨x :: y :: ys, k, rfl, rfl⟩
    | nil =>
      by_cases h : x.1 = 0 ∧ x.2 = false
      · exact ⟨[], k + 1, congrArg (· :: _) (Prod.ext h.1 h.2 : x = (0, false)), if_pos h⟩
      · exact ⟨[x], k, rfl, if_neg h⟩

theorem written_prefix (vals : List AttrVal) : toAttrs vals <+: vals.map (·.1) := by
  obtain ⟨kept, k, rfl, hk⟩ := toAttrs_spec vals
  exact ⟨List.replicate k 0, by rw [hk, List.map_append, List.map_replicate]⟩

theorem roundtrip_elided (vals : List AttrVal) (defaults : List Nat) (hl : defaults.length ≤ vals.length)
    (hd : ∀ i : Nat, (toAttrs vals).length ≤ i → vals[i]? = some (0, false) → defaults[i]? = some 0) :
    fromAttrs defaults (toAttrs vals) = vals.map (·.1) := by
  obtain ⟨kept, k, rfl, hk⟩ := toAttrs_spec vals
  have htail : defaults.drop kept.length = List.replicate k 0 := by
    apply List.ext_getElem?
    intro i
    rw [List.getElem?_drop, List.getElem?_replicate]
    split
    · rename_i hi
      apply hd
      · rw [hk, List.length_map]
        exact Nat.le_add_right _ _
      · rw [List.getElem?_append_right (Nat.le_add_right _ _), Nat.add_sub_cancel_left,
          List.getElem?_replicate, if_pos hi]
    · rename_i hi
      rw [List.length_append, List.length_replicate] at hl
      exact List.getElem?_eq_none (Nat.le_trans hl (Nat.add_le_add_left (Nat.le_of_not_lt hi) _))
  rw [hk, fromAttrs, List.length_map, htail, List.map_append, List.map_replicate]

theorem roundtrip (vals : List AttrVal) (defaults : List Nat) (hl : defaults.length = vals.length)
    (hd : ∀ i : Nat, vals[i]? = some (0, false) → defaults[i]? = some 0) :
    fromAttrs defaults (toAttrs vals) = vals.map (·.1) :=
  roundtrip_elided vals defaults (Nat.le_of_eq hl) fun i _ => hd i

theorem roundtrip_all_explicit (vals : List AttrVal) (defaults : List Nat) (hl : defaults.length = vals.length)
    (he : ∀ v ∈ vals, v.2 = true) : fromAttrs defaults (toAttrs vals) = vals.map (·.1) := by
  apply roundtrip vals defaults hl
  intro i hi
  have := he (0, false) (List.mem_of_getElem? hi)
  cases this

theorem pinned_loses_explicit_zero :
    fromAttrs [6] (toAttrsPinned [(0, true)]) = [6] ∧ fromAttrs [6] (toAttrs [(0, true)]) = [0] := ⟨rfl, rfl⟩

theorem last_kept_writes_all : ∀ (vals : List AttrVal) (h : vals ≠ []),
    ¬ ((vals.getLast h).1 = 0 ∧ (vals.getLast h).2 = false) → toAttrs vals = vals.map (·.1) := by
  intro vals h hl
  obtain ⟨kept, k, rfl, hk⟩ := toAttrs_spec vals
  cases k with
  | zero => simpa using hk
  -- otherwise the last value is one of the elided `(0, false)`, against `hl`
  | succ k => simp [List.replicate_succ', ← List.append_assoc] at hl

theorem explicit_last_zero_written (pre : List AttrVal) :
    toAttrs (pre ++ [(0, true)]) = pre.map (·.1) ++ [0] := by
  rw [last_kept_writes_all _ (List.concat_ne_nil _ _) (by rw [List.getLast_concat]; decide), List.map_append]
  rfl

theorem remarshal_same_bytes (vals : List AttrVal) (defaults : List Nat) (hl : defaults.length = vals.length)
    (hd : ∀ i : Nat, vals[i]? = some (0, false) → defaults[i]? = some 0) :
    toAttrs ((fromAttrs defaults (toAttrs vals)).zip (vals.map (·.2))) = toAttrs vals := by
  rw [roundtrip vals defaults hl hd, List.zip_map']
  exact congrArg toAttrs (List.map_id' vals)

/-! ### non-vacuity -/

/-- decimal(10) with scale 0 (implicit): written as `decimal(10)`, read back as (10, 0). -/
example : toAttrs [(10, false), (0, false)] = [10] ∧ fromAttrs [10, 0] [10] = [10, 0] := ⟨rfl, rfl⟩
/-- a zero in the middle is kept when something follows. -/
example : toAttrs [(0, false), (2, false)] = [0, 2] := rfl
example : toAttrs [(3, false), (0, true)] = [3, 0] := rfl

end Props.C15

/-
C02 — Diff is exact: every difference is reported once, and nothing else.

Model: `Atlas.Diff` — the generic differ of sql/internal/sqlx/diff.go (table, column, primary-key,
index incl. similar-unnamed matching, foreign-key and check loops) over an abstract schema graph whose
attribute comparisons are equality of tokens. The correspondence run compares this model and an
independent edit catalogue with the three real differs in the CLI's comparison mode.

Proved for well-formed schemas of any size (`WF`: distinct table / column / index / foreign-key / check names):
* nothing to report: `diff_self`, `diff_reordered` (the same tables and children in any order);
* one edit, exactly its change: `add_table_exact`, `drop_table_exact`, `modify_table_exact`, `column_edit_exact`
  (add / drop / modify, with exactly the differing kind bits), `fk_edit_exact` (modified in place),
  `table_attr_exact`; for every keyed collection `keyedDiff_add/_drop/_modify` (Lemmas/Diff.lean);
* ANY pair of schemas (any set of simultaneous edits), exactly what the diff contains: `diff_characterisation`,
  `column_`, `fk_`, `index_` (no generated index names), `check_`, `table_diff_characterisation`; for enum types
  `object_diff_characterisation`, `enum_values_change_reported`, `object_diff_nil_iff`; `diff_count`;
* the two directions of a comparison agree: `add_drop_mirror`, `modify_mirror`.

PARTIAL: not proved are single-edit exactness (`= [x]`) for index and check edits, and a characterisation or edit
exactness for indexes with generated names (similar-unnamed matching); these are decided by the correspondence
run (model = implementation on random multi-edit pairs) and the catalogue monitor; dialect-specific attribute
comparison (ColumnChange, typeChanged, defaultChanged, Normalize) is abstracted to token equality and validated
by the catalogue only.
-/
import Lemmas.Diff

namespace Props.C02
open Atlas.Diff

structure TableWF (t : Table) : Prop where
  cols : (t.cols.map Col.name).Nodup
  idxs : (t.idxs.map Idx.name).Nodup
  fks : (t.fks.map FK.symbol).Nodup
  checks : (t.checks.filterMap Check.name).Nodup

structure WF (s : List Table) : Prop where
  names : (s.map Table.name).Nodup
  tables : ∀ t ∈ s, TableWF t

/-- the same table with its children listed in another order. -/
structure Reordered (a b : Table) : Prop where
  name : a.name = b.name
  attrs : a.attrs = b.attrs
  pk : a.pk = b.pk
  cols : b.cols.Perm a.cols
  idxs : b.idxs.Perm a.idxs
  fks : b.fks.Perm a.fks
  checks : b.checks.Perm a.checks

theorem tableDiff_reordered (a b : Table) (hw : TableWF a) (h : Reordered a b) : tableDiff a b = [] := by
  unfold tableDiff
  rw [h.attrs, ← h.pk, pkDiff_self, checksDiff_perm h.checks hw.checks, columnDiff_perm h.cols hw.cols,
    indexDiff_perm h.idxs hw.idxs, fkDiff_perm h.fks hw.fks]
  simp

theorem reordered_refl (a : Table) : Reordered a a :=
  ⟨rfl, rfl, rfl, List.Perm.refl _, List.Perm.refl _, List.Perm.refl _, List.Perm.refl _⟩

theorem reordered_symm {a b : Table} (h : Reordered a b) : Reordered b a :=
  ⟨h.name.symm, h.attrs.symm, h.pk.symm, h.cols.symm, h.idxs.symm, h.fks.symm, h.checks.symm⟩

theorem tableDiff_self (a : Table) (hw : TableWF a) : tableDiff a a = [] :=
  tableDiff_reordered a a hw (reordered_refl a)

/-- the change function of `schemaDiff` (`schemaDiff_eq`), named for the `keyedDiff` lemmas. -/
def tableChg (a b : Table) : Option Change :=
  let cs := tableDiff a b; if cs.isEmpty then none else some (.modifyTable b.name cs)

theorem schemaDiff_eq (frm to : List Table) :
    schemaDiff frm to = keyedDiff Table.name tableChg (fun t => .dropTable t.name) (fun t => .addTable t.name) frm to := rfl

theorem diff_reordered (s s' : List Table) (hw : WF s) (hn' : (s'.map Table.name).Nodup)
    (h1 : ∀ a ∈ s, ∃ b ∈ s', Reordered a b) (h2 : ∀ b ∈ s', ∃ a ∈ s, Reordered a b) :
    schemaDiff s s' = [] := by
  apply keyedDiff_rel Table.name tableChg (fun a b => TableWF a ∧ Reordered a b)
  · intro a b ⟨hwa, hr⟩
    exact ⟨hr.name, by simp [tableChg, tableDiff_reordered a b hwa hr]⟩
  · intro a ha
    obtain ⟨b, hb, hr⟩ := h1 a ha
    exact ⟨b, hb, hw.tables a ha, hr⟩
  · intro b hb
    obtain ⟨a, ha, hr⟩ := h2 b hb
    exact ⟨a, ha, hw.tables a ha, hr⟩
  · exact hn'

theorem diff_self (s : List Table) (hw : WF s) : schemaDiff s s = [] :=
  diff_reordered s s hw hw.names (fun a ha => ⟨a, ha, reordered_refl a⟩) (fun b hb => ⟨b, hb, reordered_refl b⟩)

theorem tableChg_self_of_wf (s : List Table) (hw : WF s) : ∀ t ∈ s, tableChg t t = none := by
  intro t ht
  simp [tableChg, tableDiff_self t (hw.tables t ht)]

theorem tableChg_self_frame {l₁ l₂ : List Table} {t : Table} (hw : WF (l₁ ++ t :: l₂)) :
    ∀ x ∈ l₁ ++ l₂, tableChg x x = none := fun x hx =>
  tableChg_self_of_wf _ hw x (((List.sublist_cons_self t l₂).append_left l₁).subset hx)

theorem add_table_exact (l₁ l₂ : List Table) (t : Table) (hw : WF (l₁ ++ t :: l₂)) :
    schemaDiff (l₁ ++ l₂) (l₁ ++ t :: l₂) = [.addTable t.name] :=
  keyedDiff_add_frame Table.name tableChg l₁ l₂ t (tableChg_self_frame hw) hw.names

theorem drop_table_exact (l₁ l₂ : List Table) (t : Table) (hw : WF (l₁ ++ t :: l₂)) :
    schemaDiff (l₁ ++ t :: l₂) (l₁ ++ l₂) = [.dropTable t.name] :=
  keyedDiff_drop Table.name tableChg l₁ l₂ t (tableChg_self_frame hw) hw.names

theorem modify_table_exact (l₁ l₂ : List Table) (t t' : Table) (hw : WF (l₁ ++ t :: l₂)) (hname : t'.name = t.name)
    (hne : tableDiff t t' ≠ []) :
    schemaDiff (l₁ ++ t :: l₂) (l₁ ++ t' :: l₂) = [.modifyTable t.name (tableDiff t t')] :=
  keyedDiff_modify Table.name tableChg l₁ l₂ t t' _ (tableChg_self_frame hw) hname
    ((ite_isEmpty_eq_some ..).mpr ⟨hne, by rw [hname]⟩) hw.names

theorem modify_table_single (l₁ l₂ : List Table) (t t' : Table) (c : TChange)
    (hw : WF (l₁ ++ t :: l₂)) (hname : t'.name = t.name) (hd : tableDiff t t' = [c]) :
    schemaDiff (l₁ ++ t :: l₂) (l₁ ++ t' :: l₂) = [.modifyTable t.name [c]] :=
  hd ▸ modify_table_exact l₁ l₂ t t' hw hname (hd ▸ List.cons_ne_nil _ _)

theorem TableWF.parts_self {t : Table} (hw : TableWF t) :
    checksDiff t.checks t.checks = [] ∧ columnDiff t.cols t.cols = [] ∧ pkDiff t.pk t.pk = [] ∧
    indexDiff t.idxs t.idxs = [] ∧ fkDiff t.fks t.fks = [] :=
  ⟨checksDiff_perm (.refl _) hw.checks, columnDiff_perm (.refl _) hw.cols, pkDiff_self _,
    indexDiff_perm (.refl _) hw.idxs, fkDiff_perm (.refl _) hw.fks⟩

theorem tableDiff_cols (t : Table) (hw : TableWF t) (cols' : List Col) :
    tableDiff t { t with cols := cols' } = columnDiff t.cols cols' := by
  simp [tableDiff, hw.parts_self]

theorem tableDiff_fks (t : Table) (hw : TableWF t) (fks' : List FK) :
    tableDiff t { t with fks := fks' } = fkDiff t.fks fks' := by
  simp [tableDiff, hw.parts_self]

inductive ColEdit : List Col → List Col → TChange → Prop
  | add (c₁ c₂ : List Col) (c : Col) : ColEdit (c₁ ++ c₂) (c₁ ++ c :: c₂) (.addColumn c.name)
  | drop (c₁ c₂ : List Col) (c : Col) : ColEdit (c₁ ++ c :: c₂) (c₁ ++ c₂) (.dropColumn c.name)
  | modify (c₁ c₂ : List Col) (c c' : Col) (hn : c'.name = c.name) (hk : kinds c.attrs c'.attrs ≠ []) :
      ColEdit (c₁ ++ c :: c₂) (c₁ ++ c' :: c₂) (.modifyColumn c.name (kinds c.attrs c'.attrs))

theorem columnDiff_edit (cols cols' : List Col) (ch : TChange) (he : ColEdit cols cols' ch)
    (hn : (cols.map Col.name).Nodup) (hn' : (cols'.map Col.name).Nodup) : columnDiff cols cols' = [ch] := by
  cases he with
  | add c₁ c₂ c => exact keyedDiff_add Col.name colChange _ _ colChange_self c₁ c₂ c hn'
  | drop c₁ c₂ c => exact keyedDiff_drop Col.name colChange c₁ c₂ c (fun a _ => colChange_self a) hn
  | modify c₁ c₂ c c' hname hk =>
    exact keyedDiff_modify Col.name colChange c₁ c₂ c c' _ (fun a _ => colChange_self a) hname
      ((ite_isEmpty_eq_some ..).mpr ⟨hk, rfl⟩) hn

theorem column_edit_exact (l₁ l₂ : List Table) (t : Table) (cols' : List Col) (ch : TChange)
    (hw : WF (l₁ ++ t :: l₂)) (he : ColEdit t.cols cols' ch) (hn' : (cols'.map Col.name).Nodup) :
    schemaDiff (l₁ ++ t :: l₂) (l₁ ++ { t with cols := cols' } :: l₂) = [.modifyTable t.name [ch]] := by
  have hwt := hw.tables t (List.mem_append_right _ (List.mem_cons_self ..))
  exact modify_table_single l₁ l₂ t { t with cols := cols' } ch hw rfl
    (by rw [tableDiff_cols t hwt, columnDiff_edit _ _ ch he hwt.cols hn'])

/-- **fk_edit_exact**: `hc` says which kinds differ. -/
theorem fk_edit_exact (l₁ l₂ : List Table) (t : Table) (f₁ f₂ : List FK) (f f' : FK) (c : TChange)
    (hw : WF (l₁ ++ t :: l₂)) (ht : t.fks = f₁ ++ f :: f₂) (hs : f'.symbol = f.symbol) (hc : fkChange f f' = some c) :
    schemaDiff (l₁ ++ t :: l₂) (l₁ ++ { t with fks := f₁ ++ f' :: f₂ } :: l₂) = [.modifyTable t.name [c]] := by
  have hwt := hw.tables t (List.mem_append_right _ (List.mem_cons_self ..))
  refine modify_table_single l₁ l₂ t { t with fks := f₁ ++ f' :: f₂ } c hw rfl ?_
  rw [tableDiff_fks t hwt, ht]
  exact keyedDiff_modify FK.symbol fkChange f₁ f₂ f f' c (fun a _ => fkChange_self a) hs hc (ht ▸ hwt.fks)

theorem table_attr_exact (l₁ l₂ : List Table) (t : Table) (a' : Nat) (hw : WF (l₁ ++ t :: l₂)) (hne : t.attrs ≠ a') :
    schemaDiff (l₁ ++ t :: l₂) (l₁ ++ { t with attrs := a' } :: l₂) = [.modifyTable t.name [.modifyAttr]] := by
  have hwt := hw.tables t (List.mem_append_right _ (List.mem_cons_self ..))
  refine modify_table_single l₁ l₂ t { t with attrs := a' } .modifyAttr hw rfl ?_
  simp [tableDiff, hwt.parts_self, hne]

theorem diff_characterisation (s s' : List Table) (hs' : (s'.map Table.name).Nodup) (c : Change) :
    c ∈ schemaDiff s s' ↔
      (∃ t ∈ s, t.name ∉ s'.map Table.name ∧ c = .dropTable t.name) ∨
      (∃ t ∈ s, ∃ t' ∈ s', t'.name = t.name ∧ tableDiff t t' ≠ [] ∧ c = .modifyTable t'.name (tableDiff t t')) ∨
      (∃ t' ∈ s', t'.name ∉ s.map Table.name ∧ c = .addTable t'.name) := by
  -- `mem_keyedDiff`; the table change is reported iff the table diff is not empty
  simp only [schemaDiff, mem_keyedDiff s s' hs', ite_isEmpty_eq_some]

theorem column_diff_characterisation (cols cols' : List Col) (hn : (cols'.map Col.name).Nodup) (c : TChange) :
    c ∈ columnDiff cols cols' ↔
      (∃ a ∈ cols, a.name ∉ cols'.map Col.name ∧ c = .dropColumn a.name) ∨
      (∃ a ∈ cols, ∃ b ∈ cols', b.name = a.name ∧ kinds a.attrs b.attrs ≠ [] ∧ c = .modifyColumn a.name (kinds a.attrs b.attrs)) ∨
      (∃ b ∈ cols', b.name ∉ cols.map Col.name ∧ c = .addColumn b.name) := by
  -- `mem_keyedDiff`, likewise with the kinds
  simp only [columnDiff, mem_keyedDiff cols cols' hn, colChange, ite_isEmpty_eq_some]

/-- **fk_diff_characterisation**: distinct symbols on the desired side. -/
theorem fk_diff_characterisation (fks fks' : List FK) (hn : (fks'.map FK.symbol).Nodup) (c : TChange) :
    c ∈ fkDiff fks fks' ↔
      (∃ a ∈ fks, a.symbol ∉ fks'.map FK.symbol ∧ c = .dropFK a.symbol) ∨
      (∃ a ∈ fks, ∃ b ∈ fks', b.symbol = a.symbol ∧ fkChange a b = some c) ∨
      (∃ b ∈ fks', b.symbol ∉ fks.map FK.symbol ∧ c = .addFK b.symbol) :=
  mem_keyedDiff fks fks' hn c

/-- all indexes carry a name the user gave them (no generated name, hence no similarity matching). -/
def AllNamed (l : List Idx) : Prop := ∀ i ∈ l, i.name.isSome = true ∧ i.generatedName = false

/-- **index_diff_characterisation**: names distinct on the desired side; a ModifyIndex carries exactly the
differing kinds (unique / attributes / parts). -/
theorem index_diff_characterisation (idxs idxs' : List Idx) (hn : AllNamed idxs)
    (hd : (idxs'.map Idx.name).Nodup) (c : TChange) :
    c ∈ indexDiff idxs idxs' ↔
      (∃ i ∈ idxs, (∀ j ∈ idxs', j.name ≠ i.name) ∧ c = .dropIndex i) ∨
      (∃ i ∈ idxs, ∃ j ∈ idxs', j.name = i.name ∧ indexKinds i j ≠ [] ∧ c = .modifyIndex i (indexKinds i j)) ∨
      (∃ j ∈ idxs', (∀ i ∈ idxs, i.name ≠ j.name) ∧ c = .addIndex j) := by
  -- a keyed diff (`indexDiff_eq_keyedDiff`), then `mem_keyedDiff`
  simp only [indexDiff_eq_keyedDiff idxs idxs' fun i hi => .inl (hn i hi).2, mem_keyedDiff idxs idxs' hd, idxChg, ite_isEmpty_eq_some,
    List.mem_map, not_exists, not_and, ne_eq]

/-- **check_diff_characterisation**: a check matches by name or, unnamed, by expression; it is modified when the
first match has another expression. -/
theorem check_diff_characterisation (cks cks' : List Check) (c : TChange) :
    c ∈ checksDiff cks cks' ↔
      (∃ c1 ∈ cks, cks'.find? (checkMatch c1) = none ∧ c = .dropCheck c1) ∨
      (∃ c1 ∈ cks, ∃ c2, cks'.find? (checkMatch c1) = some c2 ∧ c1.expr ≠ c2.expr ∧ c = .modifyCheck c1 c2) ∨
      (∃ c1 ∈ cks', (∀ x ∈ cks, checkMatch c1 x = false) ∧ c = .addCheck c1) := by
  -- `mem_matchDiff` for the matcher `checkMatch`
  simp only [checksDiff_eq_matchDiff, mem_matchDiff, ite_none_eq_some, List.any_eq_false, Bool.not_eq_true, beq_iff_eq, ne_eq]

/-- **table_diff_characterisation**: the table diff is the concatenation of the component diffs, so the
characterisations above describe every `ModifyTable`. -/
theorem table_diff_characterisation (a b : Table) (c : TChange) :
    c ∈ tableDiff a b ↔
      (a.attrs ≠ b.attrs ∧ c = .modifyAttr) ∨ c ∈ checksDiff a.checks b.checks ∨ c ∈ columnDiff a.cols b.cols ∨
      c ∈ pkDiff a.pk b.pk ∨ c ∈ indexDiff a.idxs b.idxs ∨ c ∈ fkDiff a.fks b.fks := by
  have h : c ∈ (if a.attrs != b.attrs then [TChange.modifyAttr] else []) ↔ a.attrs ≠ b.attrs ∧ c = .modifyAttr := by
    by_cases h : a.attrs = b.attrs <;> simp [h]
  simp only [tableDiff, List.mem_append, h, or_assoc]

/-- **diff_count**: no more changes than tables on the two sides together. -/
theorem diff_count (s s' : List Table) :
    (schemaDiff s s').length ≤ s.length + s'.length := by
  unfold schemaDiff keyedDiff
  rw [List.length_append]
  exact Nat.add_le_add (List.length_filterMap_le ..) (List.length_filterMap_le ..)

/-! ### schema objects (PostgreSQL enum types) -/

/-- **object_diff_characterisation**: by name; the values are compared as ordered lists, so the same values in
another order are a modification. -/
theorem object_diff_characterisation (a b : List EnumObj) (c : OChange) :
    c ∈ objectDiff a b ↔
      (∃ e ∈ a, (b.find? (fun e2 => e2.name == e.name) = none ∧ c = .dropObject e.name) ∨
        (∃ e2, b.find? (fun e2 => e2.name == e.name) = some e2 ∧ e.values ≠ e2.values ∧ c = .modifyObject e.name)) ∨
      (∃ e ∈ b, a.any (fun e1 => e1.name == e.name) = false ∧ c = .addObject e.name) := by
  -- `mem_matchDiff` by name; the last three lemmas regroup the disjuncts as the statement has them
  simp only [objectDiff_eq_matchDiff, mem_matchDiff, Option.ite_none_right_eq_some, Option.some.injEq, @eq_comm _ _ c,
    bne_iff_ne, ne_eq, ← or_assoc, ← exists_or, ← and_or_left]

/-- **enum_values_change_reported**: one value more, one fewer, another order. -/
theorem enum_values_change_reported (a b : List EnumObj) (e e2 : EnumObj) (he : e ∈ a)
    (hf : b.find? (fun x => x.name == e.name) = some e2) (hv : e.values ≠ e2.values) :
    .modifyObject e.name ∈ objectDiff a b :=
  (object_diff_characterisation a b _).mpr (Or.inl ⟨e, he, Or.inr ⟨e2, hf, hv, rfl⟩⟩)

theorem object_diff_nil_iff (a b : List EnumObj) :
    objectDiff a b = [] ↔
      (∀ e ∈ a, ∃ e2, b.find? (fun x => x.name == e.name) = some e2 ∧ e.values = e2.values) ∧
      (∀ e ∈ b, a.any (fun e1 => e1.name == e.name) = true) := by
  simp only [objectDiff_eq_matchDiff, matchDiff_eq_nil, ite_eq_right_iff, reduceCtorEq, imp_false, bne_iff_ne, ne_eq,
    Decidable.not_not]

example : objectDiff [⟨1, [1, 2, 3]⟩, ⟨2, [1]⟩] [⟨1, [1, 2]⟩, ⟨3, [1]⟩] =
    [.dropObject 2, .modifyObject 1, .addObject 3] ∨
    objectDiff [⟨1, [1, 2, 3]⟩, ⟨2, [1]⟩] [⟨1, [1, 2]⟩, ⟨3, [1]⟩] = [.modifyObject 1, .dropObject 2, .addObject 3] := by
  decide +kernel

example : objectDiff [⟨1, [1, 2]⟩] [⟨1, [2, 1]⟩] = [.modifyObject 1] := by decide +kernel

/-! ### the two directions mirror each other -/

/-- **add_drop_mirror**: added in one direction iff dropped in the other. -/
theorem add_drop_mirror (s s' : List Table) (hs : (s.map Table.name).Nodup) (hs' : (s'.map Table.name).Nodup) (n : Nat) :
    Change.addTable n ∈ schemaDiff s s' ↔ Change.dropTable n ∈ schemaDiff s' s := by
  -- `diff_characterisation` twice: one case each builds this constructor, a table of `s'` whose name `s` lacks
  simp only [diff_characterisation s s' hs', diff_characterisation s' s hs, reduceCtorEq, and_false, exists_false,
    false_or, or_false, Change.addTable.injEq, Change.dropTable.injEq]

theorem modify_mirror_imp (s s' : List Table) (hs : (s.map Table.name).Nodup) (hs' : (s'.map Table.name).Nodup) (n : Nat)
    (hsym : ∀ t ∈ s, ∀ t' ∈ s', t'.name = t.name → tableDiff t' t = [] → tableDiff t t' = []) :
    (∃ cs, Change.modifyTable n cs ∈ schemaDiff s s') → ∃ cs, Change.modifyTable n cs ∈ schemaDiff s' s := by
  rintro ⟨cs, h⟩
  rw [diff_characterisation s s' hs'] at h
  rcases h with ⟨t, _, _, h⟩ | ⟨t, ht, t', ht', hn, hne, h⟩ | ⟨t', _, _, h⟩
  · cases h
  · cases h
    refine ⟨tableDiff t' t, (diff_characterisation s' s hs _).mpr ?_⟩
    exact Or.inr (Or.inl ⟨t', ht', t, ht, hn.symm, fun he => hne (hsym t ht t' ht' hn he), by rw [hn]⟩)
  · cases h

/-- **modify_mirror**: provided the table comparison is symmetric in emptiness for the pair (`hsym`). -/
theorem modify_mirror (s s' : List Table) (hs : (s.map Table.name).Nodup) (hs' : (s'.map Table.name).Nodup) (n : Nat)
    (hsym : ∀ t ∈ s, ∀ t' ∈ s', t'.name = t.name → (tableDiff t t' = [] ↔ tableDiff t' t = [])) :
    (∃ cs, Change.modifyTable n cs ∈ schemaDiff s s') ↔ (∃ cs, Change.modifyTable n cs ∈ schemaDiff s' s) :=
  ⟨modify_mirror_imp s s' hs hs' n fun t ht t' ht' hn => (hsym t ht t' ht' hn).mpr,
   modify_mirror_imp s' s hs' hs n fun t' ht' t ht hn => (hsym t ht t' ht' hn.symm).mp⟩

/-! ### non-vacuity -/

def tA : Table := { name := 1, cols := [⟨1, [0, 0]⟩, ⟨2, [1, 0]⟩], idxs := [{ name := some 1, unique := true, parts := [⟨1, false, 0⟩] }],
                    fks := [⟨1, [2], 2, [1], 0, 0⟩], checks := [⟨some 1, 5⟩, ⟨none, 6⟩] }
def tB : Table := { name := 2, cols := [⟨1, [0, 0]⟩] }

example : schemaDiff [tA, tB] [tB, { tA with cols := tA.cols.reverse, checks := tA.checks.reverse }] = [] := by decide +kernel

example : schemaDiff [tA, tB] [{ tA with cols := [⟨1, [0, 0]⟩, ⟨2, [1, 1]⟩] }, tB] =
    [.modifyTable 1 [.modifyColumn 2 [1]]] := by decide +kernel

/-- two different unnamed indexes: the diff of the table with itself is NOT empty (the second one is
compared with the first) — the reason `TableWF` asks for distinct index names. -/
example : tableDiff { name := 1, cols := [], idxs := [⟨none, false, false, [⟨1, false, 0⟩], 0⟩, ⟨none, false, true, [⟨2, false, 0⟩], 0⟩] }
    { name := 1, cols := [], idxs := [⟨none, false, false, [⟨1, false, 0⟩], 0⟩, ⟨none, false, true, [⟨2, false, 0⟩], 0⟩] } ≠ [] := by decide +kernel

example : Change.addTable 2 ∈ schemaDiff [tA] [tA, tB] ∧ Change.dropTable 2 ∈ schemaDiff [tA, tB] [tA] := by decide +kernel

end Props.C02

/-
C07 — What is planned is what is executed: plan → file → statements round-trips.

Model: `Atlas.Format` (DefaultFormatter incl. `directives`/`delim`, the up/down templates of sqltool)
composed with the scanner model `Atlas.Lex`. The correspondence run compares, for every generated plan of
the three real planners, the written file and the statements read back with the model's; the monitor
compares the statements read back with `Plan.Changes[].Cmd`.

Proved here (all plans / all delimiters). The `-- atlas:delimiter` header: `unescape_escape`,
`escape_injective` (delimiters without a backslash; the hypothesis is needed:
`escape_sequence_delimiter_not_restored`, `escape_not_injective`, known finding
`delimiter-with-literal-escape-sequence`), `escape_no_newline` (it stays on one line), `no_header`,
`delimiter_header` (its shape); that `init` reads the delimiter back is evaluated for two delimiters
(`example`s). The files: `formatAtlas_units`, `formatUp_units`; `downStmts_spec`, `rev_rev`,
`downUnit_irreversible` (`downStmts` is what a down file is meant to hold); `addDirective_keeps_first_line`
(a checkpoint directive goes below the delimiter header; pinned commit: `pinned_checkpoint_hides_delimiter`).

PARTIAL: the full statement `scan (format plan) = plan.map cmd` is not proved (nor is the class of plans
for which it holds defined); it is checked on every generated plan by the correspondence + monitor.
goose / dbmate / liquibase readers are exercised by the harness only.
-/
import Atlas.Format

namespace Props.C07
open Atlas Atlas.Format

/-- **unescape_escape**: the scanner's `setDelim` undoes the formatter's `delim` escaping for every
delimiter that contains no backslash. -/
theorem unescape_escape : ∀ (d : Bytes), (∀ b ∈ d, b ≠ 0x5c) → Lex.unescape (escapeDelim d) = d := by
  intro d h
  fun_induction escapeDelim d with
  | case1 r ih | case2 r ih | case3 r ih =>
    simp [Lex.unescape, ih fun x hx => h x (List.mem_cons_of_mem _ hx)]
  | case5 => rfl
  | case4 b r _ _ _ ih =>
    -- no backslash: `unescape` copies the byte
    have hb : b ≠ 0x5c := h b (List.mem_cons_self ..)
    rw [Lex.unescape.eq_4 b _ (fun _ h _ => hb h) (fun _ h _ => hb h) (fun _ h _ => hb h),
      ih fun x hx => h x (List.mem_cons_of_mem _ hx)]

/-- **escape_injective**: two delimiters without a backslash never share a header. -/
theorem escape_injective (d₁ d₂ : Bytes) (h₁ : ∀ b ∈ d₁, b ≠ 0x5c) (h₂ : ∀ b ∈ d₂, b ≠ 0x5c)
    (h : escapeDelim d₁ = escapeDelim d₂) : d₁ = d₂ := by
  rw [← unescape_escape d₁ h₁, ← unescape_escape d₂ h₂, h]

/-- … while with a backslash two different delimiters are written as the same header. -/
theorem escape_not_injective : escapeDelim [0x5c, 0x6e] = escapeDelim [0x0a] := by decide

/-- the hypothesis of `unescape_escape` is needed: backslash + n is written unchanged and read back as a
line feed. -/
theorem escape_sequence_delimiter_not_restored :
    Lex.unescape (escapeDelim [0x5c, 0x6e]) = [0x0a] ∧ Lex.unescape (escapeDelim [0x61, 0x5c, 0x74, 0x62]) = [0x61, 0x09, 0x62] := by
  decide +kernel

theorem escape_no_newline : ∀ (d : Bytes), (0x0a : UInt8) ∉ escapeDelim d := by
  intro d
  fun_induction escapeDelim d with
  | case1 _ ih | case2 _ ih | case3 _ ih => simp [ih]
  | case4 b r hlf _ _ ih =>
    simp only [List.mem_cons, not_or]
    exact ⟨fun h => hlf h.symm, ih⟩
  | case5 => simp

/-- **formatAtlas_units**: the directive header, then one unit per change in plan order. -/
theorem formatAtlas_units (p : Plan) (h : Bytes) (hd : directivesText p = some h) :
    formatAtlas p = some (h ++ (p.changes.map (atlasUnit p)).flatten) := by
  simp [formatAtlas, hd, List.flatMap]

theorem formatUp_units (p : Plan) : formatUp p = (p.changes.map upUnit).flatten := by
  simp [formatUp, List.flatMap]

theorem rev_rev (cs : List Change) : rev (rev cs) = cs := by simp [rev]

/-- **downStmts_spec** (shared with C17): the reverse statements of the changes in reverse plan order, each
change's statements in their own order. -/
theorem downStmts_spec (p : Plan) : downStmts p = (p.changes.reverse.map (·.reverse)).flatten := by
  simp [downStmts, rev, List.flatMap]

theorem downUnit_irreversible (c : Change) (h : c.reverse = []) : downUnit c = [] := by
  simp [downUnit, h]

theorem no_header (p : Plan) (h1 : p.delimiter = []) (h2 : p.directives = []) : directivesText p = some [] := by
  simp [directivesText, h1, h2]

theorem delimiter_header (p : Plan) (h1 : p.delimiter ≠ []) (h2 : p.directives = []) :
    directivesText p = some (delimLine p.delimiter ++ [0x0a, 0x0a]) := by
  have : p.delimiter.isEmpty = false := by cases hd : p.delimiter <;> simp_all
  simp [directivesText, h2, this, intercalate]

/-! ### checkpoint files -/

theorem takeWhile_lt_of_mem {α : Type} (p : α → Bool) {a : α} (ha : p a = false) :
    ∀ l : List α, a ∈ l → (l.takeWhile p).length < l.length
  | b :: t, h => by
    rw [List.takeWhile_cons]
    split
    · rename_i hb
      have : a ∈ t := (List.mem_cons.mp h).resolve_left fun e => by rw [e, hb] at ha; cases ha
      have := takeWhile_lt_of_mem p ha t this
      simp only [List.length_cons]; omega
    · simp

/-- repaired tree: the new directive line goes below the first line. -/
theorem addDirective_keeps_first_line (name f : Bytes) (hd : hasDelimHeader f = true)
    (hn : name ≠ delimiterName) (hnl : (0x0a : UInt8) ∈ f) :
    addDirective true name f =
      f.takeWhile (· != 0x0a) ++ [0x0a] ++
        ([0x2d, 0x2d, 0x20] ++ Hash.atlasTag ++ name ++ [0x0a] ++ (if startsWithComment f then [] else [0x0a])) ++
        f.drop ((f.takeWhile (· != 0x0a)).length + 1) := by
  have hlt : (f.takeWhile (· != 0x0a)).length < f.length :=
    takeWhile_lt_of_mem (α := UInt8) (· != 0x0a) (a := 0x0a) rfl f hnl
  unfold addDirective
  have hne : (name != delimiterName) = true := by simpa using hn
  simp only [hd, hne, hlt, Bool.and_self, decide_true, if_true]

/-- the pinned commit puts the checkpoint directive in front of the delimiter directive … -/
theorem pinned_checkpoint_hides_delimiter :
    (formatCheckpoint false { delimiter := [0x47, 0x4f], changes := [{ cmd := Bytes.ascii ['A'] }, { cmd := Bytes.ascii ['B'] }] }).map
      (fun f => f.take 20) = some (Bytes.ascii ['-', '-', ' ', 'a', 't', 'l', 'a', 's', ':', 'c', 'h', 'e', 'c', 'k', 'p', 'o', 'i', 'n', 't', '\n']) := by
  decide +kernel

/-- … the repaired tree keeps `-- atlas:delimiter GO` first. -/
example :
    (formatCheckpoint true { delimiter := [0x47, 0x4f], changes := [{ cmd := Bytes.ascii ['A'] }, { cmd := Bytes.ascii ['B'] }] }).map
      (fun f => f.take 22) = some (Bytes.ascii ['-', '-', ' ', 'a', 't', 'l', 'a', 's', ':', 'd', 'e', 'l', 'i', 'm', 'i', 't', 'e', 'r', ' ', 'G', 'O', '\n']) := by
  decide +kernel

/-! ### non-vacuity -/

def nl3 : Bytes := [0x0a, 0x0a, 0x0a]

/-- the header written for the delimiter "\n\n\n" is read back by `Scanner.init` as that delimiter. -/
example : (Lex.init true (delimLine nl3 ++ [0x0a, 0x0a] ++ Bytes.ascii ['a'])).map (·.delim) = some nl3 := by decide +kernel

example : (Lex.init true (delimLine (Bytes.ascii ['/', '/']) ++ [0x0a, 0x0a] ++ Bytes.ascii ['a'])).map (·.delim)
    = some (Bytes.ascii ['/', '/']) := by decide +kernel

end Props.C07

/-
C14 — The dev database is never damaged: refused if not empty (and then untouched), otherwise handed
back empty.

Model: `Atlas.Dev` — the Snapshot / defer-restore protocol with SQLite's cleanliness test and restore
function — plus the table `Gen.C14.sites`, REGENERATED from the Go source on every run, of all calls
of `Snapshot` with the facts "error checked", "restore deferred immediately", "calls before".

Proved here:
* `refuse_nonempty` — a database holding any object is refused and comes out unchanged (repaired tree; on
  the pinned tree a views-only database was accepted and wiped: `views_only_pinned`);
* `returns_empty` — an accepted database is returned empty whatever the statements do and wherever one
  fails; `runs_returns_empty`, `runs_refuse_nonempty` — the same for a command that uses it several times;
* `accepted_iff_empty` — accepted only if empty (so nothing can be lost);
* `dev_db_unchanged_by_any_command` — for every content, every number of uses and every failing position,
  the content after the command is the content before (false of the pinned test: the last example);
* `success_iff_no_failing_statement`, `refused_not_ok` — success exactly when no statement failed; a refusal
  is never a success;
* `all_sites_deferred`, `no_exec_before_snapshot`, `sites_known` — every `Snapshot` call in the source checks
  the error and defers the restore in the next statement, no direct call of `ExecContext`, `Exec`,
  `ApplyChanges` or `ExecuteN` precedes it in its function, and the dev-database users are the expected
  ones (a new user must be added here).

PARTIAL: that each command's dev-database use goes through one of these four functions, and that the real
SQLite restore empties the file, is established by the correspondence run over every `--dev-url` command.
"Replaying never writes to the directory" is a byte-wise monitor on the real commands, not a theorem.
-/
import Atlas.Dev
import Gen.C14Sites

namespace Props.C14
open Atlas.Dev

theorem run_true_nonempty (k : Kind) (ks : DevDb) (stmts : List (Option Kind)) :
    run true (k :: ks) stmts = { refused := true, ok := false, db := k :: ks } := rfl

theorem run_true_empty (stmts : List (Option Kind)) :
    run true [] stmts = { refused := false, ok := (execStmts [] stmts).2, db := [] } := rfl

theorem refuse_nonempty (db : DevDb) (stmts : List (Option Kind)) (h : db ≠ []) :
    (run true db stmts).refused = true ∧ (run true db stmts).db = db := by
  cases db with
  | nil => exact absurd rfl h
  | cons k ks => rw [run_true_nonempty]; exact ⟨rfl, rfl⟩

theorem accepted_iff_empty (db : DevDb) (stmts : List (Option Kind)) :
    (run true db stmts).refused = false ↔ db = [] := by
  cases db with
  | nil => rw [run_true_empty]; exact ⟨fun _ => rfl, fun _ => rfl⟩
  | cons k ks => rw [run_true_nonempty]; exact ⟨fun h => (nomatch h), fun h => (nomatch h)⟩

theorem returns_empty (fixed : Bool) (db : DevDb) (stmts : List (Option Kind))
    (h : (run fixed db stmts).refused = false) : (run fixed db stmts).db = [] := by
  unfold run at h ⊢
  split
  · rfl
  · next hc => rw [if_neg hc] at h; cases h

theorem runs_returns_empty (uses : List (List (Option Kind))) :
    (runs true [] uses).db = [] ∧ (runs true [] uses).refused = false := by
  induction uses with
  | nil => exact ⟨rfl, rfl⟩
  | cons s rest ih =>
    rw [runs, run_true_empty]
    -- a failing use ends the command with its (empty) outcome, otherwise the rest runs from `[]`
    cases (execStmts [] s).2
    · exact ⟨rfl, rfl⟩
    · exact ih

theorem runs_refuse_nonempty (db : DevDb) (s : List (Option Kind)) (rest : List (List (Option Kind))) (h : db ≠ []) :
    (runs true db (s :: rest)).refused = true ∧ (runs true db (s :: rest)).db = db := by
  cases db with
  | nil => exact absurd rfl h
  | cons k ks => rw [runs, run_true_nonempty]; exact ⟨rfl, rfl⟩

theorem dev_db_unchanged_by_any_command (db : DevDb) (uses : List (List (Option Kind))) :
    (runs true db uses).db = db := by
  cases uses with
  | nil => rfl
  | cons s rest =>
    cases db with
    | nil => exact (runs_returns_empty (s :: rest)).1
    | cons k ks => exact (runs_refuse_nonempty (k :: ks) s rest (List.cons_ne_nil k ks)).2

theorem execStmts_ok (stmts : List (Option Kind)) (db : DevDb) :
    (execStmts db stmts).2 = true ↔ none ∉ stmts := by
  fun_induction execStmts db stmts with
  | case1 => simp
  | case2 db k rest ih => simp [ih]
  | case3 => simp

theorem success_iff_no_failing_statement (stmts : List (Option Kind)) :
    (run true [] stmts).ok = true ↔ none ∉ stmts := by
  rw [run_true_empty]
  exact execStmts_ok stmts []

theorem refused_not_ok (fixed : Bool) (db : DevDb) (stmts : List (Option Kind))
    (h : (run fixed db stmts).refused = true) : (run fixed db stmts).ok = false := by
  unfold run at h ⊢
  split
  · next hc => rw [if_pos hc] at h; cases h
  · rfl

/-- the pinned cleanliness test (`len(Tables) == 0`) accepted a database holding only a view and the
restore function wiped it. -/
theorem views_only_pinned : (run false [.view] []).refused = false ∧ (run false [.view] []).db = [] := ⟨rfl, rfl⟩

theorem all_sites_deferred : ∀ s ∈ Gen.C14.sites, s.errChecked = true ∧ s.deferRestore = true := by decide

theorem no_exec_before_snapshot :
    ∀ s ∈ Gen.C14.sites, ∀ c ∈ s.callsBefore, c ≠ "ExecContext" ∧ c ≠ "Exec" ∧ c ≠ "ApplyChanges" ∧ c ≠ "ExecuteN" := by decide +kernel

theorem sites_known : Gen.C14.sites.map (fun s => (s.file, s.func)) =
    [("cmd/atlas/internal/migratelint/lint.go", "LoadChanges"),
     ("sql/internal/sqlx/dev.go", "NormalizeRealm"),
     ("sql/internal/sqlx/dev.go", "NormalizeSchema"),
     ("sql/migrate/migrate.go", "Replay")] := rfl  -- string literals compared as they stand; `decide` walks them character by character

/-! ### non-vacuity -/

example : (run true [] [some .table, some .view, none, some .index]) = { refused := false, ok := false, db := [] } := rfl
example : (run true [.table, .index] [some .table]) = { refused := true, ok := false, db := [.table, .index] } := rfl

example : (runs true [.view, .table] [[some .table], [none]]).db = [.view, .table] := rfl
example : (runs false [.view] [[some .table]]).db ≠ [.view] := by decide

end Props.C14

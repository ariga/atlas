/-
C05 — Planned table changes never lose rows or values of columns that survive.

Model: `Atlas.Copy` — the column mapping of `copyRows` (INSERT INTO new_T (toC) SELECT fromC FROM T)
and its effect on rows. The correspondence run compares `copyPlan` with the INSERT statement of every
rebuild the real planner emits, and the monitor compares every row of every surviving column of unchanged
type before and after `ApplyChanges` on a real SQLite engine.

Proved (tables with any number of columns, any rows; the value theorems for distinct column names):
* `row_count_preserved` — one row written per existing row;
* `unchanged_column_preserved` — a column without an associated change keeps its value in every row;
* `modified_column_preserved` — a modified column keeps every non-NULL value; a NULL is replaced only when
  the column becomes NOT NULL with a default and its nullability/default changed (`backfill_only_null`), and
  then by that default;
* `renamed_column_preserved` — a renamed column carries the values of the old name;
* `generated_and_added_not_copied` — every target of the INSERT names a column neither generated nor added;
* `plan_covers_surviving_columns` — every such column of the new table is a target (none is left to its default);
* `plan_targets_distinct` / `plan_in_column_order` — no target twice, targets in the new table's column order.

PARTIAL: the in-place path (ALTER TABLE ADD COLUMN / CREATE INDEX / DROP INDEX) does not rewrite rows at
all — SQLite's behaviour, observed by the monitor; cascades of the DROP TABLE inside a rebuild are excluded
by `PRAGMA foreign_keys = off`, observed by the monitor with enforcement on (self-referencing CASCADE /
SET NULL keys); values are opaque: SQLite's affinity conversion on a column whose type is modified is outside
model and monitor.
-/
import Atlas.Copy
import Lemmas.FindKey

namespace Props.C05
open Atlas.Copy

theorem row_count_preserved (plan : List (Nat × Src)) (dflt : Nat → Nat) (other : Nat → Option Nat) (rows : List Row) :
    (copyRows plan dflt other rows).length = rows.length := by
  simp [copyRows]

theorem srcOf_isSome (c : ToCol) : (srcOf c).isSome ↔ c.generated = false ∧ c.change ≠ .added := by
  unfold srcOf
  cases c.generated
  · cases c.change <;> simp
  · simp

theorem srcOf_fst (c : ToCol) (p : Nat × Src) (h : srcOf c = some p) : p.1 = c.name := by
  unfold srcOf at h
  split at h
  · cases h
  · split at h <;> cases h <;> rfl

theorem srcOf_unchanged (c : ToCol) (hg : c.generated = false) (hch : c.change = .none) :
    srcOf c = some (c.name, .col c.name) := by
  simp [srcOf, hg, hch]

theorem srcOf_modified (c : ToCol) (hg : c.generated = false) (b : Bool) (hch : c.change = .modified b) :
    srcOf c = some (c.name, if c.notNull && c.hasDefault && b then .ifnull c.name else .col c.name) := by
  simp [srcOf, hg, hch]

theorem srcOf_renamed (c : ToCol) (hg : c.generated = false) (f : Nat) (hch : c.change = .renamed f) :
    srcOf c = some (c.name, .col f) := by
  simp [srcOf, hg, hch]

/-- `IFNULL` only differs from the plain column on NULL. -/
theorem evalSrc_ite (dflt : Nat → Nat) (r : Row) (n m : Nat) (b : Bool) :
    evalSrc dflt r n (if b then .ifnull m else .col m) = (r m).or (if b then some (dflt n) else none) := by
  cases b
  · exact Option.or_none.symm
  · show (match r m with | some v => some v | none => some (dflt n)) = _
    cases r m <;> rfl

/-- the INSERT's column list is the names of the columns that have a source, in column order. -/
theorem copyPlan_targets (to : List ToCol) :
    (copyPlan to).map (·.1) = (to.filter (fun c => (srcOf c).isSome)).map (·.name) := by
  induction to with
  | nil => rfl
  | cons a as ih =>
    unfold copyPlan at ih ⊢
    rw [List.filterMap_cons, List.filter_cons]
    cases hs : srcOf a with
    | none => simpa using ih
    | some p => simp [ih, srcOf_fst a p hs]

theorem plan_in_column_order : ∀ (to : List ToCol), ((copyPlan to).map (·.1)).Sublist (to.map (·.name)) := by
  intro to
  rw [copyPlan_targets]
  exact List.filter_sublist.map _

theorem plan_targets_distinct : ∀ (to : List ToCol), (to.map (·.name)).Nodup →
    ((copyPlan to).map (·.1)).Nodup :=
  fun to hn => hn.sublist (plan_in_column_order to)

theorem generated_and_added_not_copied (to : List ToCol) (p : Nat × Src) (hp : p ∈ copyPlan to) :
    ∃ c ∈ to, c.name = p.1 ∧ c.generated = false ∧ c.change ≠ .added := by
  obtain ⟨c, hc, hs⟩ := List.mem_filterMap.mp hp
  exact ⟨c, hc, (srcOf_fst c p hs).symm, (srcOf_isSome c).mp (by rw [hs]; rfl)⟩

theorem plan_covers_surviving_columns (to : List ToCol) (c : ToCol) (hc : c ∈ to)
    (hg : c.generated = false) (ha : c.change ≠ .added) : ∃ s, (c.name, s) ∈ copyPlan to := by
  obtain ⟨p, hp⟩ := Option.isSome_iff_exists.mp ((srcOf_isSome c).mpr ⟨hg, ha⟩)
  exact ⟨p.2, List.mem_filterMap.mpr ⟨c, hc, by rw [hp, ← srcOf_fst c p hp]⟩⟩

theorem copyRow_of_srcOf (to : List ToCol) (hn : (to.map (·.name)).Nodup) (c : ToCol) (hc : c ∈ to)
    (p : Nat × Src) (hp : srcOf c = some p) (dflt : Nat → Nat) (other : Nat → Option Nat) (r : Row) :
    copyRow (copyPlan to) dflt other r c.name = evalSrc dflt r c.name p.2 := by
  have := Atlas.find_key_self (·.1) (l := copyPlan to) (plan_targets_distinct to hn) (List.mem_filterMap.mpr ⟨c, hc, hp⟩)
  rw [srcOf_fst c p hp] at this
  simp only [copyRow, this]

theorem unchanged_column_preserved (to : List ToCol) (hn : (to.map (·.name)).Nodup) (c : ToCol) (hc : c ∈ to)
    (hg : c.generated = false) (hch : c.change = .none) (dflt : Nat → Nat) (other : Nat → Option Nat) (r : Row) :
    copyRow (copyPlan to) dflt other r c.name = r c.name :=
  copyRow_of_srcOf to hn c hc _ (srcOf_unchanged c hg hch) dflt other r

theorem modified_column_preserved (to : List ToCol) (hn : (to.map (·.name)).Nodup) (c : ToCol) (hc : c ∈ to)
    (hg : c.generated = false) (b : Bool) (hch : c.change = .modified b) (dflt : Nat → Nat) (other : Nat → Option Nat)
    (r : Row) (v : Nat) (hv : r c.name = some v) :
    copyRow (copyPlan to) dflt other r c.name = some v := by
  rw [copyRow_of_srcOf to hn c hc _ (srcOf_modified c hg b hch), evalSrc_ite, hv]
  rfl

theorem backfill_only_null (to : List ToCol) (hn : (to.map (·.name)).Nodup) (c : ToCol) (hc : c ∈ to)
    (hg : c.generated = false) (b : Bool) (hch : c.change = .modified b) (dflt : Nat → Nat) (other : Nat → Option Nat)
    (r : Row) (hv : r c.name = none) :
    copyRow (copyPlan to) dflt other r c.name =
      if c.notNull && c.hasDefault && b then some (dflt c.name) else none := by
  rw [copyRow_of_srcOf to hn c hc _ (srcOf_modified c hg b hch), evalSrc_ite, hv]
  rfl

theorem renamed_column_preserved (to : List ToCol) (hn : (to.map (·.name)).Nodup) (c : ToCol) (hc : c ∈ to)
    (hg : c.generated = false) (f : Nat) (hch : c.change = .renamed f) (dflt : Nat → Nat) (other : Nat → Option Nat) (r : Row) :
    copyRow (copyPlan to) dflt other r c.name = r f :=
  copyRow_of_srcOf to hn c hc _ (srcOf_renamed c hg f hch) dflt other r

/-! ### non-vacuity -/

def toCols : List ToCol :=
  [{ name := 1 }, { name := 2, notNull := true, hasDefault := true, change := .modified true },
   { name := 3, change := .added }, { name := 4, generated := true }]

example : copyPlan toCols = [(1, .col 1), (2, .ifnull 2)] := rfl
example : copyRow (copyPlan toCols) (fun _ => 9) (fun _ => none) (fun n => if n = 1 then some 5 else none) 2 = some 9 := rfl
example : ((copyPlan toCols).map (·.1)) = [1, 2] := rfl

end Props.C05

/-
C08 — The statement scanner is total, lossless and position-accurate on arbitrary input.

Model: `Atlas.Lex` (sql/migrate/lex.go), field by field, for every scanner option used by `migrate.Stmts`
and the MySQL / PostgreSQL / SQLite drivers. The theorems hold for EVERY byte string (not only 7-bit
input) and every combination of the modelled options.

Positions (repaired tree): `scan_positions`, `chain_disjoint`, `scan_bounded` (with `Chain.mono`,
`Chain.append`, `Chain.mem`); for the consumer `FileReport.Line`: `positions_map_to_lines`, `line_of_split`. No crash: `scan_never_panics`. On the pinned
commit `init` starts `total`, from which every `Pos` is taken, at 0 behind a stripped header
(`pinned_header_pos`) and `delimCmd` ends in the out-of-range slice (`pinned_delimiter_quote_panics`).

Fuel (the loops of the model take a fuel argument): `fuel_suffices`, `fuel_irrelevant` (with what the nested
BEGIN … END scanners answer), `inner_fuel_suffices` (quote and dollar-quote loops); `iteration_consumes`,
`statement_shortens_input`: those loops of lex.go terminate. The bounded loops of `delimCmd`, the tag
matcher and the trimmers are not covered by a theorem.

The structural half of *lossless*: `scan_reassembles`, `scan_total_length` (over `Chain`: `chain_weave`,
`weave_length`). Not proved (correspondence + monitor only): that each gap holds only
blank/comment/delimiter text (the gap grammar of `lossless`).
-/
import Lemmas.LexFuel

namespace Props.C08
open Atlas Atlas.Lex

/-- the statements lie in `src` one after the other, each exactly at its `pos`, the first not before `lo`. -/
def Chain (src : Bytes) : Nat → List Stmt → Prop
  | _, [] => True
  | lo, st :: rest =>
    lo ≤ st.pos ∧ (src.drop st.pos).take st.text.length = st.text ∧ Chain src (st.pos + st.text.length) rest

theorem Chain.mono {src : Bytes} {lo lo' : Nat} {l : List Stmt} (h : Chain src lo l) (hle : lo' ≤ lo) :
    Chain src lo' l := by
  cases l with
  | nil => trivial
  | cons st rest => exact ⟨Nat.le_trans hle h.1, h.2.1, h.2.2⟩

theorem Chain.append {src : Bytes} : ∀ {lo : Nat} {l : List Stmt} {st : Stmt} {hi : Nat},
    Chain src lo l → (∀ x ∈ l, x.pos + x.text.length ≤ hi) → lo ≤ hi → StmtOK src hi (st.pos + st.text.length) st →
    Chain src lo (l ++ [st]) := by
  intro lo l
  induction l generalizing lo with
  | nil =>
    intro st hi _ _ hle ok
    exact ⟨Nat.le_trans hle ok.lo_le, ok.found, trivial⟩
  | cons x xs ih =>
    intro st hi h hall _ ok
    refine ⟨h.1, h.2.1, ih h.2.2 (fun y hy => hall y (List.mem_cons_of_mem _ hy)) (hall x (List.mem_cons_self ..)) ok⟩

theorem Chain.mem {src : Bytes} : ∀ {lo : Nat} {l : List Stmt}, Chain src lo l → ∀ st ∈ l,
    lo ≤ st.pos ∧ (src.drop st.pos).take st.text.length = st.text := by
  intro lo l
  induction l generalizing lo with
  | nil => intro _ st hst; cases hst
  | cons a l ih =>
    intro h st hst
    rcases List.mem_cons.mp hst with rfl | hm
    · exact ⟨h.1, h.2.1⟩
    · exact ⟨Nat.le_trans h.1 (Nat.le_trans (Nat.le_add_right ..) (ih h.2.2 st hm).1), (ih h.2.2 st hm).2⟩

theorem drop_found {src t : Bytes} {p : Nat} (h : (src.drop p).take t.length = t) :
    src.drop p = t ++ src.drop (p + t.length) := by
  have := (List.take_append_drop t.length (src.drop p)).symm
  rwa [h, List.drop_drop] at this

theorem scanAll_ok {o : Opts} {src : Bytes} {fuel : Nat} :
    ∀ {n : Nat} {s : St} (acc : List Stmt) {out : List Stmt}, Inv src s → s.pos = 0 →
      Chain src 0 acc.reverse → (∀ x ∈ acc, x.pos + x.text.length ≤ off src s) →
      scanAll true o fuel n s acc = .inr out →
      Chain src 0 out ∧ ∀ x ∈ out, x.pos + x.text.length ≤ src.length := by
  intro n
  induction n with
  | zero => intro s acc out _ _ _ _ h; simp [scanAll] at h
  | succ n ih =>
    intro s acc out inv hp hc hall h
    unfold scanAll at h
    rcases hs : stmt true o fuel s with ⟨s1, res⟩
    rw [hs] at h
    cases res with
    | inl e =>
      cases e with
      | eof =>
        cases h
        refine ⟨hc, fun x hx => Nat.le_trans (hall x (List.mem_reverse.mp hx)) ?_⟩
        unfold off; omega
      | err | panic | fuel => cases h
    | inr st =>
      have hst := stmt_spec src true o fuel s hp
      rw [hs] at hst
      obtain ⟨i1, p1, ok⟩ := hst.2 inv (bodiesOK o fuel)
      refine ih (st :: acc) i1 p1 ?_ ?_ h
      · rw [List.reverse_cons]
        exact Chain.append hc (fun x hx => hall x (List.mem_reverse.mp hx)) (Nat.zero_le _)
          ⟨ok.lo_le, Nat.le_refl _, ok.found⟩
      · intro x hx
        rcases List.mem_cons.mp hx with rfl | hx
        · exact ok.le_hi
        · exact Nat.le_trans (hall x hx) (Nat.le_trans ok.lo_le (Nat.le_trans (Nat.le_add_right ..) ok.le_hi))

theorem scan_ok {o : Opts} {src : Bytes} {stmts : List Stmt} (h : scan true o src = .inr stmts) :
    Chain src 0 stmts ∧ ∀ st ∈ stmts, st.pos + st.text.length ≤ src.length := by
  unfold scan at h
  cases hi : init true src with
  | none => rw [hi] at h; cases h
  | some s =>
    rw [hi] at h
    exact scanAll_ok [] (init_inv hi) (init_ok hi).1 trivial (by simp) h

/-- **scan_positions** (`pos_exact` + `pos_increasing_disjoint`): each returned statement's text is exactly
the bytes of the input at its reported position, the positions increase and the statements do not overlap. -/
theorem scan_positions (o : Opts) (src : Bytes) (stmts : List Stmt) (h : scan true o src = .inr stmts) :
    Chain src 0 stmts := (scan_ok h).1

/-- **scan_bounded**: `Pos + len(Text) ≤ len(input)`: a consumer slicing the file at `Pos` stays in range. -/
theorem scan_bounded (o : Opts) (src : Bytes) (stmts : List Stmt) (h : scan true o src = .inr stmts) :
    ∀ st ∈ stmts, st.pos + st.text.length ≤ src.length := (scan_ok h).2

/-- in the words of the property: statement `i` ends before statement `j > i` begins. -/
theorem chain_disjoint {src : Bytes} : ∀ {lo : Nat} {l : List Stmt}, Chain src lo l →
    ∀ i j (hi : i < l.length) (hj : j < l.length), i < j → l[i].pos + l[i].text.length ≤ l[j].pos := by
  intro lo l
  induction l generalizing lo with
  | nil => intro _ i j hi; simp at hi
  | cons x xs ih =>
    intro h i j hi hj hij
    cases j with
    | zero => omega
    | succ j =>
      cases i with
      | zero => exact (Chain.mem h.2.2 _ (List.getElem_mem ..)).1
      | succ i =>
        simp only [List.getElem_cons_succ]
        exact ih h.2.2 i j (by simpa using hi) (by simpa using hj) (by omega)

/-! ### consumers: positions map to lines (`FileReport.Line`, cmd/atlas/internal/migratelint) -/

/-- `FileReport.Line(pos)`: `strings.Count(f.Text[:pos], "\n") + 1` over the raw file bytes (a carriage return
is not a line feed: CRLF files count the same). -/
def lineOf (src : Bytes) (pos : Nat) : Nat := (src.take pos).count 10 + 1

theorem line_of_split (pre text rest : Bytes) : lineOf (pre ++ text ++ rest) pre.length = pre.count 10 + 1 := by
  unfold lineOf
  rw [List.append_assoc, List.take_left']
  rfl

/-- **positions_map_to_lines**: `Line(Pos)` is the line on which the statement's text starts: `1 +` the line
feeds of what precedes it in the file. -/
theorem positions_map_to_lines (o : Opts) (src : Bytes) (stmts : List Stmt) (h : scan true o src = .inr stmts) :
    ∀ st ∈ stmts, ∃ pre rest, src = pre ++ st.text ++ rest ∧ pre.length = st.pos ∧
      lineOf src st.pos = pre.count 10 + 1 := by
  have hc := scan_positions o src stmts h
  intro st hst
  have ht := (Chain.mem hc st hst).2
  have hlen : st.pos ≤ src.length := by have := scan_bounded o src stmts h st hst; omega
  refine ⟨src.take st.pos, src.drop (st.pos + st.text.length), ?_, by simp [hlen], rfl⟩
  rw [List.append_assoc, ← drop_found ht, List.take_append_drop]

/-! ### termination and no crash: the fuel of the model is never the limit -/

/-- **iteration_consumes**: a continuing iteration of the `Scan:` loop has moved the cursor forward by at
least one byte, whatever the nested-scanner oracle answers. -/
theorem iteration_consumes (fixed : Bool) (o : Opts) (body : Bool → Bytes → St → Option Nat) (s s' : St)
    (d op d' op' : Nat) (h : step fixed o body s d op = .cont s' d' op') : rem s' + 1 ≤ rem s := by
  have := step_spec [] fixed o body s d op
  rw [h] at this
  exact this.1

/-- **statement_shortens_input**: so the `for` loop of `Scan` (and of the nested BEGIN … END scanners)
terminates. -/
theorem statement_shortens_input (fixed : Bool) (o : Opts) (fuel : Nat) (s s' : St) (st : Stmt)
    (hp : s.pos = 0) (hd : s.delim ≠ []) (h : stmt fixed o fuel s = (s', .inr st)) :
    s'.input.length < s.input.length := by
  have := (stmt_prog h hp hd).2.1
  omega

/-- **fuel_suffices**: for every input and option set `scan` never ends in the fuel outcome of `scanAll` /
`stmt` / `scanLoop`. -/
theorem fuel_suffices (fixed : Bool) (o : Opts) (src : Bytes) : scan fixed o src ≠ .inl .fuel := by
  intro h
  exact (scan_outcome fixed o src _ h).1 rfl

/-- **scan_never_panics**: on the repaired tree no input drives the scanner into the modelled out-of-range
slice (`delim[1:len-1]` in `delimCmd`; the other slice expressions of lex.go are total `take`/`drop` here). -/
theorem scan_never_panics (o : Opts) (src : Bytes) : scan true o src ≠ .inl .panic := by
  intro h
  cases (scan_outcome true o src _ h).2.2 rfl

/-- **fuel_irrelevant**: any bounds of at least 3·len+2 and len+1 give the result of `scan`. -/
theorem fuel_irrelevant (fixed : Bool) (o : Opts) (src : Bytes) (F n : Nat)
    (hF : 3 * src.length + 2 ≤ F) (hn : src.length + 1 ≤ n) :
    scanWith fixed o F n src = scan fixed o src := by
  rw [scan_eq_scanWith, (scanWith_min fixed o src F n hF hn).2,
    (scanWith_min fixed o src _ _ (fuelFor_ge src) (by omega)).2]

/-- the private fuel `len(input) + 1` of the quote and dollar-quote loops is never the limit either. -/
theorem inner_fuel_suffices (q : UInt8) (e : Bool) (m : Bytes) (s : St) (k : Nat) :
    skipQuoteLoop q e (s.input.length + 1 + k) s = skipQuoteLoop q e (s.input.length + 1) s ∧
    dollarLoop m (s.input.length + 1 + k) s = dollarLoop m (s.input.length + 1) s :=
  have hr : rem s + 1 ≤ s.input.length + 1 := Nat.succ_le_succ (Nat.sub_le ..)
  ⟨stable_from (fun f => skipQuoteLoop q e f s) _ (fun n hn => skipQuoteLoop_stable q e n s (Nat.le_trans hr hn)) k,
   stable_from (fun f => dollarLoop m f s) _ (fun n hn => dollarLoop_stable m n s (Nat.le_trans hr hn)) k⟩

/-- an instance: the hypotheses are plain size bounds. -/
example (o : Opts) : scanWith true o 1000 1000 (Bytes.ascii "BEGIN x;END".toList) =
    scan true o (Bytes.ascii "BEGIN x;END".toList) :=
  fuel_irrelevant true o _ 1000 1000 (by decide +kernel) (by decide +kernel)

def stmtsOpts : Opts := { matchBeginAtomic := true, matchDollarQuote := true }

/-- `-- atlas:delimiter ` + backslash + `n`, then a line break and `a` -/
def inHeader : Bytes := Bytes.ascii
  ['-', '-', ' ', 'a', 't', 'l', 'a', 's', ':', 'd', 'e', 'l', 'i', 'm', 'i', 't', 'e', 'r', ' ', '\\', 'n', '\n', 'a']

/-- the repaired `init` counts the 22 bytes of the stripped header line in `total` … -/
example : (init true inHeader).map (fun s => (s.total, s.input)) = some (22, Bytes.ascii ['a']) := by decide +kernel

/-- … the pinned commit starts at the second line: every `Pos` comes out short by 22. -/
theorem pinned_header_pos : (init false inHeader).map (fun s => (s.total, s.input)) = some (0, Bytes.ascii ['a']) := by
  decide +kernel

/-- the state in which `stmt` calls `delimCmd` for the input `DELIMITER '` + line break + `foo`. -/
def stQuote : St :=
  { input := Bytes.ascii ['D', 'E', 'L', 'I', 'M', 'I', 'T', 'E', 'R', ' ', '\'', '\n', 'f', 'o', 'o'],
    pos := 9, total := 9, width := 1 }

/-- `DELIMITER '` drives the pinned commit into `delim[1:0]` (slice bounds out of range) … -/
theorem pinned_delimiter_quote_panics : delimCmd false stmtsOpts stQuote = .inl .panic := by decide +kernel

/-- … and the repaired tree takes the quote character itself as the delimiter. -/
example : (match delimCmd true stmtsOpts stQuote with | .inr s => s.delim | .inl _ => []) = Bytes.ascii ['\''] := by
  decide +kernel

/-! ### the structural half of *lossless* -/

/-- gap₀ ++ text₀ ++ gap₁ ++ text₁ ++ … ++ gapₙ. -/
def weave : List Bytes → List Bytes → Bytes
  | g :: gs, t :: ts => g ++ t ++ weave gs ts
  | [g], [] => g
  | _, _ => []

theorem chain_weave {src : Bytes} : ∀ {lo : Nat} {l : List Stmt}, Chain src lo l →
    ∃ gaps : List Bytes, gaps.length = l.length + 1 ∧ src.drop lo = weave gaps (l.map (·.text)) := by
  intro lo l
  induction l generalizing lo with
  | nil => intro _; exact ⟨[src.drop lo], rfl, rfl⟩
  | cons st rest ih =>
    intro h
    obtain ⟨gaps, hlen, hw⟩ := ih h.2.2
    refine ⟨(src.drop lo).take (st.pos - lo) :: gaps, by simp [hlen], ?_⟩
    simp only [List.map_cons, weave]
    rw [← hw]
    have h1 : src.drop lo = (src.drop lo).take (st.pos - lo) ++ (src.drop lo).drop (st.pos - lo) :=
      (List.take_append_drop _ _).symm
    have h2 : (src.drop lo).drop (st.pos - lo) = src.drop st.pos := by
      rw [List.drop_drop]; congr 1; have := h.1; omega
    rw [List.append_assoc, ← drop_found h.2.1, ← h2]
    exact h1

/-- **scan_reassembles**: the input is gap₀ ++ stmt₀ ++ gap₁ ++ … ++ gapₙ with the returned texts in the
returned order: no byte of a statement is altered, duplicated or moved. -/
theorem scan_reassembles (o : Opts) (src : Bytes) (stmts : List Stmt) (h : scan true o src = .inr stmts) :
    ∃ gaps : List Bytes, gaps.length = stmts.length + 1 ∧ src = weave gaps (stmts.map (·.text)) := by
  obtain ⟨gaps, hl, hw⟩ := chain_weave (scan_positions o src stmts h)
  exact ⟨gaps, hl, by simpa using hw⟩

theorem weave_length : ∀ (gaps texts : List Bytes), gaps.length = texts.length + 1 →
    (weave gaps texts).length = (gaps.map List.length).sum + (texts.map List.length).sum := by
  intro gaps texts
  induction texts generalizing gaps with
  | nil =>
    intro h
    match gaps, h with
    | [g], _ => simp [weave]
  | cons t ts ih =>
    intro h
    match gaps, h with
    | g :: gs, h =>
      simp only [weave, List.length_append, List.map_cons, List.sum_cons]
      rw [ih gs (by simpa using h)]
      omega

/-- **scan_total_length**: the statement texts together are never longer than the input. -/
theorem scan_total_length (o : Opts) (src : Bytes) (stmts : List Stmt) (h : scan true o src = .inr stmts) :
    ((stmts.map (·.text)).map List.length).sum ≤ src.length := by
  obtain ⟨gaps, hl, hw⟩ := scan_reassembles o src stmts h
  have := weave_length gaps (stmts.map (·.text)) (by simpa using hl)
  rw [← hw] at this
  omega

example : weave [[1], [2], [3]] [[10], [20]] = [1, 10, 2, 20, 3] := by decide

end Props.C08

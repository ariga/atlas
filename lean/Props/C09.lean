/-
C09 — Executor runs each statement in order, once, and resumes after any failure.

Model: `Atlas.Exec` (`Execute`, `exec`, fault schedules over every `ExecContext` and every
`WriteRevision`). The theorems quantify over every directory (distinct versions), every number of attempts and
every fault schedule of every attempt; all are about `execFiles true`, the repaired `Execute`.

The invariant is `DInv` (Lemmas/ExecDir.lean): `inv_init`, `inv_step`, `inv_attempts`; read off it:
`history_le_executed`, `at_most_one_repeat_per_write_fault`, `exactly_once_stmt_faults`; after a final clean run:
`clean_run_completes`, `exactly_once_overall`, `executed_count_bound`.
-/
import Lemmas.ExecDir

namespace Props.C09
open Atlas Atlas.Exec

/-- is file `m` not completely recorded? (`Applied != Total`, or no revision) -/
def notDone (revs : List Revision) (m : MFile) : Bool :=
  match findRev m.version revs with
  | some r => r.applied != r.total
  | none => true

/-- the files a run hands to `exec` in a linear directory without checkpoints: everything from the first file not
completely recorded (`Props.C11.pending_of_dinv`; the correspondence run checks it through the real `ExecuteN`). -/
def pendingSpec (dir : List MFile) (revs : List Revision) : List MFile :=
  dir.dropWhile (fun m => !notDone revs m)

def attempt (H : Text → String) (dir : List MFile) (w : World) (fs : List Nat) : World × Res :=
  execFiles true H (pendingSpec dir w.revs) { w with tick := 0, faults := fs }

def attempts (H : Text → String) (dir : List MFile) : World → List (List Nat) → World
  | w, [] => w
  | w, fs :: rest => attempts H dir (attempt H dir w fs).1 rest

def Reachable (H : Text → String) (dir : List MFile) (w : World) : Prop :=
  ∃ scheds : List (List Nat), w = attempts H dir {} scheds

theorem pendingSpec_eq {H : Text → String} {pre rest : List MFile} {w : World} {a e k : Nat}
    (inv : DInv H pre rest w a e k) : pendingSpec (pre ++ rest) w.revs = rest := by
  unfold pendingSpec
  rw [List.dropWhile_append_of_pos fun m hm => by
    obtain ⟨r, h1, h2, h3⟩ := inv.done m hm
    simp [notDone, h1, h2, h3]]
  cases rest with
  | nil => rfl
  | cons m post =>
    have : notDone w.revs m = true := by
      unfold notDone
      cases h : findRev m.version w.revs with
      | none => rfl
      | some r => simpa using Nat.ne_of_lt (inv.cur_unfinished h)
    simp [this]

/-- **inv_init**: the empty database satisfies the invariant for any directory. -/
theorem inv_init (H : Text → String) (dir : List MFile) : DInv H [] dir {} 0 0 0 := by
  refine ⟨by simp, ?_, by omega, by simpa using Stutter.nil, by simp⟩
  cases dir with
  | nil => exact ⟨rfl, rfl⟩
  | cons m post =>
    exact ⟨Or.inl ⟨rfl, rfl⟩, by omega, Or.inr rfl, fun _ _ => rfl⟩

/-- **inv_step**: one attempt, under ANY fault schedule, keeps the invariant, never panics, never reports a changed
history; without faults it succeeds and completes the directory. -/
theorem inv_step {H : Text → String} {dir pre rest : List MFile} {w : World} {a e k : Nat}
    (hnd : (dir.map (·.version)).Nodup) (hsplit : pre ++ rest = dir)
    (inv : DInv H pre rest w a e k) (fs : List Nat) :
    ∃ pre' rest' a' e' k', pre' ++ rest' = dir ∧ DInv H pre' rest' (attempt H dir w fs).1 a' e' k' ∧
      ((attempt H dir w fs).2 = .ok → rest' = []) ∧ (attempt H dir w fs).2 ≠ .panic ∧
      (∀ i b, (attempt H dir w fs).2 ≠ .historyChanged i b) ∧
      (fs = [] → (attempt H dir w fs).2 = .ok) := by
  unfold attempt
  rw [← hsplit, pendingSpec_eq inv]
  rw [← hsplit] at hnd
  obtain ⟨pre', rest', a', e', k', h1, h2, h3, h4, h5, h6⟩ :=
    execFiles_inv (w := { w with tick := 0, faults := fs }) hnd
      ⟨inv.done, inv.cur, inv.ele, inv.journal, inv.paid⟩
  exact ⟨pre', rest', a', e', k', h1, h2, h3, h4, h5, fun hf => h6 (by simpa using hf)⟩

/-- **inv_attempts**: every reachable state satisfies the invariant. -/
theorem inv_attempts {H : Text → String} {dir : List MFile} (hnd : (dir.map (·.version)).Nodup)
    {w : World} (hr : Reachable H dir w) :
    ∃ pre rest a e k, pre ++ rest = dir ∧ DInv H pre rest w a e k := by
  obtain ⟨scheds, rfl⟩ := hr
  suffices ∀ (scheds : List (List Nat)) (w : World) (pre rest : List MFile) (a e k : Nat),
      pre ++ rest = dir → DInv H pre rest w a e k →
      ∃ pre' rest' a' e' k', pre' ++ rest' = dir ∧ DInv H pre' rest' (attempts H dir w scheds) a' e' k' from
    this scheds {} [] dir 0 0 0 rfl (inv_init H dir)
  intro scheds
  induction scheds with
  | nil => intro w pre rest a e k hs inv; exact ⟨pre, rest, a, e, k, hs, inv⟩
  | cons fs tl ih =>
    intro w pre rest a e k hs inv
    obtain ⟨pre', rest', a', e', k', h1, h2, _⟩ := inv_step hnd hs inv fs
    exact ih _ pre' rest' a' e' k' h1 h2

/-- the number of statements the revision table records in a state of the invariant. -/
def recordedCount (pre : List MFile) (a : Nat) : Nat := (flat pre).length + a

/-- **history_le_executed** (never overclaims, never skips): the history records at most what was really executed,
and at most one executed statement is unrecorded. -/
theorem history_le_executed {H : Text → String} {pre rest : List MFile} {w : World} {a e k : Nat}
    (inv : DInv H pre rest w a e k) :
    recordedCount pre a + e + k = w.journal.length ∧ e ≤ 1 := by
  refine ⟨?_, inv.ele⟩
  rw [inv.journal.length, List.length_append, List.length_take, recordedCount]
  have := inv.head_le
  omega

/-- **at_most_one_repeat_per_write_fault**: repeated executions (plus the pending unrecorded one) never exceed the
failed revision writes. -/
theorem at_most_one_repeat_per_write_fault {H : Text → String} {pre rest : List MFile} {w : World}
    {a e k : Nat} (inv : DInv H pre rest w a e k) : k + e ≤ w.wfails := inv.paid

/-- **exactly_once_stmt_faults**: if no revision write ever failed, the journal is exactly the recorded statements,
each once, in directory order. -/
theorem exactly_once_stmt_faults {H : Text → String} {pre rest : List MFile} {w : World} {a e k : Nat}
    (inv : DInv H pre rest w a e k) (hw : w.wfails = 0) :
    w.journal = flat pre ++ (headStmts rest).take a := by
  obtain ⟨rfl, rfl⟩ : k = 0 ∧ e = 0 := by have := inv.paid; omega
  exact inv.journal.zero_eq

/-- **clean_run_completes**: from any reachable state a run without faults succeeds; afterwards every statement has
been executed, in order, the only repetitions being the `k ≤ wfails` paid ones, and every file is recorded. -/
theorem clean_run_completes {H : Text → String} {dir : List MFile} (hnd : (dir.map (·.version)).Nodup)
    {w : World} (hr : Reachable H dir w) :
    (attempt H dir w []).2 = .ok ∧
    ∃ k, Stutter k (flat dir) (attempt H dir w []).1.journal ∧ k ≤ (attempt H dir w []).1.wfails ∧
      ∀ m ∈ dir, Complete (attempt H dir w []).1.revs m := by
  obtain ⟨pre, rest, a, e, k, hs, inv⟩ := inv_attempts hnd hr
  obtain ⟨pre', rest', a', e', k', h1, h2, h3, _, _, h6⟩ := inv_step hnd hs inv []
  have hok := h6 rfl
  have hr' := h3 hok
  subst hr'
  simp only [List.append_nil] at h1
  subst h1
  obtain ⟨ha, he⟩ := h2.cur
  subst ha; subst he
  refine ⟨hok, k', ?_, by have := h2.paid; omega, h2.done⟩
  simpa [headStmts] using h2.journal

/-- **exactly_once_overall** (the last sentence of the property): when only statements ever failed, the journal after
the final clean run is exactly the directory's statements, each once. -/
theorem exactly_once_overall {H : Text → String} {dir : List MFile} (hnd : (dir.map (·.version)).Nodup)
    {w : World} (hr : Reachable H dir w) (hw : (attempt H dir w []).1.wfails = 0) :
    (attempt H dir w []).1.journal = flat dir := by
  obtain ⟨_, k, hst, hk, _⟩ := clean_run_completes hnd hr
  obtain rfl : k = 0 := by omega
  exact hst.zero_eq

/-- **executed_count_bound**: after the final clean run, the statements executed number those of the directory plus
at most one per failed revision write. -/
theorem executed_count_bound {H : Text → String} {dir : List MFile} (hnd : (dir.map (·.version)).Nodup)
    {w : World} (hr : Reachable H dir w) :
    (flat dir).length ≤ (attempt H dir w []).1.journal.length ∧
    (attempt H dir w []).1.journal.length ≤ (flat dir).length + (attempt H dir w []).1.wfails := by
  obtain ⟨_, k, hst, hk, _⟩ := clean_run_completes hnd hr
  have := hst.length
  omega

/-! ### non-vacuity -/

def toyH : Text → String := fun t => String.ofList t

def dir2 : List MFile :=
  [{ name := "1_a.sql", version := "1", stmts := ["A;".toList, "B;".toList] },
   { name := "2_b.sql", version := "2", stmts := ["C;".toList] }]

/-- a reachable state with a repetition: the write after statement A fails (operation 2), the second
attempt is clean: A is executed twice, everything else once. -/
example : (attempts toyH dir2 {} [[2], []]).journal = ["A;".toList, "A;".toList, "B;".toList, "C;".toList] := by
  decide +kernel

example : (attempts toyH dir2 {} [[2], []]).wfails = 1 := by decide +kernel

/-- statement faults only: exactly once. -/
example : (attempts toyH dir2 {} [[3], [1], []]).journal = flat dir2 := by decide +kernel

end Props.C09

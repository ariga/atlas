/-
C06 — Directory integrity: any tampering is detected, an untouched directory validates.

Model: `Atlas.Hash` (sql/migrate/dir.go: Files, NewHashFile, HashFile.Sum/MarshalText/UnmarshalText,
Validate). For every hash function `H` (the `_wf` theorems: every `H` whose output holds no LF, CR or ':');
detection is always a reduction to an explicit collision (`Collision H`), never an injectivity assumption.

`Validate` compares only the header sums, and `Sum` hashes the entries concatenated without separators, so
besides a collision two *different* entry lists with the same concatenation would validate (a file name
absorbing bytes of a hash value). `validate_detects` names that case (`Framing`); `validate_detects_same_names`
and `validate_detects_size_change` exclude it for the edits the property lists (content edits, swaps,
additions, removals, renames to a name of another length) when hash values have a fixed length.

Files carrying `atlas:sum ignore` are outside the detection statements (`NoIgnore`); see `ignore_tail_invisible`.
Also: `validate_after_write` (`_wf`: by `roundTrip_dir`), `sumfile_edit_detected`, `missing_sum_file`,
`only_migration_files_count`, `validate_after_write_other_entries`.
-/
import Lemmas.HashRoundTrip

namespace Props.C06
open Atlas Atlas.Hash

/-- `UnmarshalText ∘ MarshalText = id` on these entries. Holds when no file name contains a line feed or
leading/trailing white space and the hash text holds no LF, CR or ':' (`roundTrip_dir`; names otherwise:
known finding `fresh-sum-invalid-for-blank-edged-name`). Through `toOption` because `Except Err _` has no
`DecidableEq` and the examples decide it. -/
def RoundTrip (H : Bytes → Bytes) (es : List Entry) : Prop := (unmarshal H (marshal H es)).toOption = some es

theorem RoundTrip.eq {H : Bytes → Bytes} {es : List Entry} (rt : RoundTrip H es) :
    unmarshal H (marshal H es) = .ok es := by
  unfold RoundTrip at rt
  cases h : unmarshal H (marshal H es) with
  | error e => rw [h] at rt; cases rt
  | ok a => rw [h] at rt; exact congrArg Except.ok (Option.some.inj rt)

def Framing (es es' : List Entry) : Prop := es ≠ es' ∧ concatEntries es = concatEntries es'

/-- against a sum file written by `writeSum` (and readable), `Validate` compares the two header sums. -/
theorem validate_written_eq_ok (H : Bytes → Bytes) (dir dir' : List DFile)
    (rt : RoundTrip H (newHashFile H (files dir))) :
    validate H dir' (some (writeSum H dir)) = .ok ↔
      sumOf H (newHashFile H (files dir)) = sumOf H (newHashFile H (files dir')) := by
  rw [validate_some_eq_ok, writeSum, rt.eq]
  exact ⟨fun ⟨_, h, hs⟩ => Except.ok.inj h ▸ hs, fun hs => ⟨_, rfl, hs⟩⟩

/-- **validate_after_write**: right after the sum file was written the directory validates. -/
theorem validate_after_write (H : Bytes → Bytes) (dir : List DFile)
    (rt : RoundTrip H (newHashFile H (files dir))) :
    validate H dir (some (writeSum H dir)) = .ok :=
  (validate_written_eq_ok H dir dir rt).mpr rfl

/-- **validate_detects**: a directory that validates against the sum file written for another one lists
the same files with the same bytes – or a collision or a framing coincidence is exhibited. -/
theorem validate_detects (H : Bytes → Bytes) (dir dir' : List DFile)
    (rt : RoundTrip H (newHashFile H (files dir)))
    (hi : NoIgnore (files dir)) (hi' : NoIgnore (files dir'))
    (hok : validate H dir' (some (writeSum H dir)) = .ok) :
    files dir' = files dir ∨ Collision H ∨
      Framing (newHashFile H (files dir)) (newHashFile H (files dir')) := by
  rcases Collision.of_eq ((validate_written_eq_ok H dir dir' rt).mp hok) with hc | hc
  · by_cases he : newHashFile H (files dir) = newHashFile H (files dir')
    · exact (entries_injective hi hi' he).imp Eq.symm .inl
    · exact .inr (.inr ⟨he, hc⟩)
  · exact .inr (.inl hc)

/-- **validate_detects_same_names**: edits that keep the file names and their order (bytes edited,
inserted, deleted, contents swapped, …) are detected – or a collision is exhibited. -/
theorem validate_detects_same_names (H : Bytes → Bytes) (L : Nat) (hL : ∀ x, (H x).length = L)
    (dir dir' : List DFile) (rt : RoundTrip H (newHashFile H (files dir)))
    (hi : NoIgnore (files dir)) (hi' : NoIgnore (files dir'))
    (hn : (files dir').map (·.name) = (files dir).map (·.name))
    (hok : validate H dir' (some (writeSum H dir)) = .ok) :
    files dir' = files dir ∨ Collision H := by
  rcases validate_detects H dir dir' rt hi hi' hok with h | h | ⟨hne, hc⟩
  · exact .inl h
  · exact .inr h
  · refine absurd (concat_same_names ?_ (entries_hash_length hL _ _) (entries_hash_length hL _ _) hc) hne
    rw [newHashFileFrom_names H _ hi, newHashFileFrom_names H _ hi', hn]

/-- the length of N₁H₁N₂H₂… when every hash has length `L` (`entries_frameSize`). -/
def frameSize (L : Nat) (fs : List DFile) : Nat := (fs.map (fun f => f.name.length + L)).sum

theorem entries_frameSize (H : Bytes → Bytes) (L : Nat) (hL : ∀ x, (H x).length = L) (fs : List DFile) (acc : Bytes)
    (h : NoIgnore fs) : (concatEntries (newHashFileFrom H acc fs)).length = frameSize L fs := by
  have hf : fs.map (fun f => f.name.length + L) = (fs.map (·.name)).map (·.length + L) := by
    rw [List.map_map]; rfl
  rw [concatEntries_length, frameSize, hf, ← newHashFileFrom_names H acc h, List.map_map]
  exact congrArg List.sum (List.map_congr_left fun e he => by rw [entries_hash_length hL fs acc e he]; rfl)

/-- **validate_detects_size_change**: whenever the size of the framed string differs (a file added,
removed, renamed to a name of another length), the change is detected – or a collision is exhibited. -/
theorem validate_detects_size_change (H : Bytes → Bytes) (L : Nat) (hL : ∀ x, (H x).length = L)
    (dir dir' : List DFile) (rt : RoundTrip H (newHashFile H (files dir)))
    (hi : NoIgnore (files dir)) (hi' : NoIgnore (files dir'))
    (hsz : frameSize L (files dir') ≠ frameSize L (files dir)) :
    validate H dir' (some (writeSum H dir)) ≠ .ok ∨ Collision H := by
  by_cases hok : validate H dir' (some (writeSum H dir)) = .ok
  · refine .inr ((Collision.of_eq ((validate_written_eq_ok H dir dir' rt).mp hok)).resolve_left fun hc => hsz ?_)
    rw [← entries_frameSize H L hL _ [] hi', ← entries_frameSize H L hL _ [] hi]
    exact (congrArg List.length hc).symm
  · exact .inl hok

/-- **sumfile_edit_detected**: whatever bytes are put in atlas.sum, the directory validates only if they
parse to entries with the directory's header sum (the same framed string, or a collision). -/
theorem sumfile_edit_detected (H : Bytes → Bytes) (dir : List DFile) (b : Bytes)
    (hok : validate H dir (some b) = .ok) :
    ∃ ac, unmarshal H b = .ok ac ∧
      (concatEntries ac = concatEntries (newHashFile H (files dir)) ∨ Collision H) := by
  obtain ⟨ac, hu, hs⟩ := (validate_some_eq_ok H dir b).mp hok
  exact ⟨ac, hu, Collision.of_eq hs⟩

/-- a missing sum file is accepted only for a directory without migration files. -/
theorem missing_sum_file (H : Bytes → Bytes) (dir : List DFile) :
    validate H dir none = .ok ↔ files dir = [] := by
  unfold validate
  cases h : files dir <;> simp

/-- a hash function whose output holds no LF, CR or ':' (base64, like `NewHashFile`'s). -/
def GoodH (H : Bytes → Bytes) : Prop := ∀ x, GoodHash (H x)

/-- a file name the sum-file format can carry: no line feed, no leading / trailing Unicode white space
(it survives `strings.TrimSpace` with the separating blank appended). -/
def WFName (n : Bytes) : Prop := (∀ b ∈ n, b ≠ 0x0a) ∧ Atlas.Bytes.trimSpace (n ++ [0x20]) = n

/-- **roundTrip_general**: for every list of well-formed entries. -/
theorem roundTrip_general (H : Bytes → Bytes) (hH : GoodH H) (es : List Entry)
    (hwf : ∀ e ∈ es, WFEntry e) : RoundTrip H es := by
  unfold RoundTrip
  rw [unmarshal_marshal H es (hH _) hwf]
  rfl

/-- the sum file of every directory whose file names are well-formed reads back. -/
theorem roundTrip_dir (H : Bytes → Bytes) (hH : GoodH H) (dir : List DFile)
    (hn : ∀ f ∈ files dir, WFName f.name) : RoundTrip H (newHashFile H (files dir)) :=
  roundTrip_general H hH _ fun _ he =>
    let ⟨f, hf, x, hx⟩ := newHashFileFrom_mem he
    hx ▸ ⟨(hn f hf).1, (hn f hf).2, hH x⟩

/-- **validate_after_write_wf**: for all well-formed file names, any number of files, any contents. -/
theorem validate_after_write_wf (H : Bytes → Bytes) (hH : GoodH H) (dir : List DFile)
    (hn : ∀ f ∈ files dir, WFName f.name) : validate H dir (some (writeSum H dir)) = .ok :=
  validate_after_write H dir (roundTrip_dir H hH dir hn)

/-- **validate_detects_wf**: `validate_detects` without the round-trip hypothesis. -/
theorem validate_detects_wf (H : Bytes → Bytes) (hH : GoodH H) (dir dir' : List DFile)
    (hn : ∀ f ∈ files dir, WFName f.name)
    (hi : NoIgnore (files dir)) (hi' : NoIgnore (files dir'))
    (hok : validate H dir' (some (writeSum H dir)) = .ok) :
    files dir' = files dir ∨ Collision H ∨
      Framing (newHashFile H (files dir)) (newHashFile H (files dir')) :=
  validate_detects H dir dir' (roundTrip_dir H hH dir hn) hi hi' hok

/-- **only_migration_files_count**: sum and verdict depend on the directory only through `files`: the sum file
itself, sub-directories, files without the `.sql` suffix can be added, removed or changed without effect. -/
theorem only_migration_files_count (H : Bytes → Bytes) (dir dir' : List DFile) (h : files dir' = files dir) :
    writeSum H dir' = writeSum H dir ∧ ∀ sum, validate H dir' sum = validate H dir sum :=
  ⟨writeSum_of_files_eq H h, validate_of_files_eq H h⟩

/-- **validate_after_write_other_entries**: hence a directory still validates after such entries changed. -/
theorem validate_after_write_other_entries (H : Bytes → Bytes) (dir dir' : List DFile)
    (rt : RoundTrip H (newHashFile H (files dir))) (h : files dir' = files dir) :
    validate H dir' (some (writeSum H dir)) = .ok := by
  rw [validate_of_files_eq H h]
  exact validate_after_write H dir rt

/-- known finding (by design of the directive): a file carrying `atlas:sum ignore` whose name sorts after all
other migration files changes neither the written sum nor any verdict. -/
theorem ignore_tail_invisible (H : Bytes → Bytes) (dir : List DFile) (f : DFile) (hs : hasSqlExt f.name = true)
    (hlt : ∀ g ∈ dir, hasSqlExt g.name = true → bytesLt g.name f.name = true)
    (hi : sumIgnore f.content = true) (b : Bytes) :
    writeSum H (dir ++ [f]) = writeSum H dir ∧ validate H (dir ++ [f]) (some b) = validate H dir (some b) := by
  have he : newHashFile H (files (dir ++ [f])) = newHashFile H (files dir) := by
    rw [files_append_last dir f hs hlt]
    exact newHashFileFrom_append_ignored H f hi _ _
  unfold writeSum validate
  rw [he]
  exact ⟨rfl, rfl⟩

/-! ### non-vacuity -/

/-- a toy "hash" of fixed length 4 over the letters A..P, used only by the examples. -/
def toyH (b : Bytes) : Bytes :=
  [65 + UInt8.ofNat (b.length % 16), 65 + (b.foldl (· + ·) 0) % 16, 65 + (b.headD 0) % 16, 65 + (b.getLastD 0) % 16]

def n1 : Bytes := ascii ['1', '_', 'a', '.', 's', 'q', 'l']
def n2 : Bytes := ascii ['2', '_', 'b', '.', 's', 'q', 'l']
def dirA : List DFile :=
  [⟨n2, ascii ['B', ';', '\n']⟩, ⟨n1, ascii ['A', ';', '\n']⟩, ⟨ascii ['n', '.', 'm', 'd'], ascii ['x']⟩]

/-- the hypotheses are satisfiable: sorted and filtered listing, the written sum file reads back. -/
example : (files dirA).map (·.name) = [n1, n2] := by decide +kernel
theorem roundTrip_example : RoundTrip toyH (newHashFile toyH (files dirA)) := by unfold RoundTrip; decide +kernel
example : validate toyH dirA (some (writeSum toyH dirA)) = .ok := validate_after_write toyH dirA roundTrip_example
example : NoIgnore (files dirA) := by unfold NoIgnore; decide +kernel
example : WFName n1 ∧ WFName n2 := by unfold WFName; decide +kernel
/-- the hypotheses of the `_wf` theorems are satisfiable (a two-letter constant "hash"). -/
example : GoodH (fun _ => [65, 66]) := by
  intro x b hb
  simp only [List.mem_cons, List.not_mem_nil, or_false] at hb
  rcases hb with rfl | rfl <;> decide
example : validate (fun _ => [65, 66]) dirA (some (writeSum (fun _ => [65, 66]) dirA)) = .ok := by decide +kernel

/-! ### known findings (witnesses) -/

def ignoreFile : DFile :=
  ⟨ascii ['9', '_', 'z', '.', 's', 'q', 'l'],
   ascii ['-', '-', ' ', 'a', 't', 'l', 'a', 's', ':', 's', 'u', 'm', ' ', 'i', 'g', 'n', 'o', 'r', 'e', '\n', 'D', ';']⟩

example : sumIgnore ignoreFile.content = true := by decide +kernel

/-- known finding (by design of the directive): `ignore_tail_invisible` for `dirA` and one such file. -/
theorem ignore_tail_undetected :
    validate toyH (dirA ++ [ignoreFile]) (some (writeSum toyH dirA)) = .ok := by
  rw [(ignore_tail_invisible toyH dirA ignoreFile (by decide +kernel) (by decide +kernel) (by decide +kernel) _).2]
  exact validate_after_write toyH dirA roundTrip_example

def blankName : List DFile := [⟨ascii [' ', '1', '.', 's', 'q', 'l'], ascii ['A', ';']⟩]

/-- known finding: a file name with a leading blank does not survive `UnmarshalText`'s `TrimSpace`;
the freshly written sum file is rejected. -/
theorem blank_edged_name_rejected : validate toyH blankName (some (writeSum toyH blankName)) ≠ .ok := by
  decide +kernel

end Props.C06

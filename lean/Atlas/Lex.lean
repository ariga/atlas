/-
Model of the statement scanner (sql/migrate/lex.go): `Scanner.Scan/init/stmt/next/pick/addPos/
skipQuote/skipDollarQuote/skipBeginAtomic/skipBegin/comment/skipSpaces/emit/delimCmd/setDelim`,
field by field, over bytes. Runes are decoded as Go's `utf8.DecodeRuneInString` does (only the width
and "is it this ASCII character" matter to the scanner).

Modelled options: MatchBegin, MatchBeginAtomic, MatchDollarQuote, BackslashEscapes,
EscapedStringExt, HashComments, OmitDelimiter – every option the community drivers and
`migrate.Stmts` use. GoCommand, MatchBeginTryCatch and BeginEndTerminator (used by no driver of this
repository) are not modelled.

Loops take a fuel argument. When it runs out, `scanLoop`, `stmt` and `scanAll` report `Out.fuel`
(impossible: `Props.C08.fuel_suffices`), `bodyLoop` and `skipQuoteLoop` answer `none`, the other inner
loops return the state reached (`Props.C08.fuel_irrelevant` covers `bodyLoop`, `inner_fuel_suffices` the
quote and dollar-quote loops).
`fixed = false` undoes the repairs of `init` (the pinned commit does not count the stripped
`atlas:delimiter` header in `total`) and of `delimCmd` (it slices a one-character quoted delimiter out
of range); `fixed = true` is the repaired tree. The two repairs of `skipQuote` are on for both values.
-/
import Atlas.Base.Bytes
import Atlas.Hash

namespace Atlas.Lex
open Atlas Atlas.Bytes

structure Opts where
  matchBegin : Bool := false
  matchBeginAtomic : Bool := false
  matchDollarQuote : Bool := false
  backslashEscapes : Bool := false
  escapedStringExt : Bool := false
  hashComments : Bool := false
  omitDelimiter : Bool := false
deriving Repr, DecidableEq, Inhabited

/-- what the scanner can tell about a decoded rune. -/
inductive R
  | eos
  | ch (b : UInt8)   -- a 7-bit character
  | other            -- anything else (multi-byte rune or invalid byte)
deriving Repr, DecidableEq, Inhabited

structure St where
  input : Bytes
  pos : Nat := 0
  total : Nat := 0
  width : Nat := 0
  delim : Bytes := [0x3b]
  comments : List Bytes := []
deriving Repr, DecidableEq, Inhabited

structure Stmt where
  pos : Nat
  text : Bytes
  comments : List Bytes
deriving Repr, DecidableEq, Inhabited

/-- the ways a scan stops without a statement. -/
inductive Out
  | eof
  | err
  | panic
  | fuel
deriving Repr, DecidableEq, Inhabited

/-! ### UTF-8 width (`utf8.DecodeRuneInString`) -/

def isCont (b : UInt8) : Bool := 0x80 ≤ b && b ≤ 0xbf

def runeWidth : Bytes → Nat
  | [] => 0
  | x :: rest =>
    if x < 0x80 then 1
    else if 0xc2 ≤ x && x ≤ 0xdf then
      match rest with
      | b :: _ => if isCont b then 2 else 1
      | _ => 1
    else if 0xe0 ≤ x && x ≤ 0xef then
      match rest with
      | b :: c :: _ =>
        let lo : UInt8 := if x == 0xe0 then 0xa0 else 0x80
        let hi : UInt8 := if x == 0xed then 0x9f else 0xbf
        if lo ≤ b && b ≤ hi && isCont c then 3 else 1
      | _ => 1
    else if 0xf0 ≤ x && x ≤ 0xf4 then
      match rest with
      | b :: c :: d :: _ =>
        let lo : UInt8 := if x == 0xf0 then 0x90 else 0x80
        let hi : UInt8 := if x == 0xf4 then 0x8f else 0xbf
        if lo ≤ b && b ≤ hi && isCont c && isCont d then 4 else 1
      | _ => 1
    else 1

/-! ### primitives -/

def St.addPos (s : St) (p : Nat) : St := { s with pos := s.pos + p, total := s.total + p }

/-- `s.next()` -/
def next (s : St) : St × R :=
  match s.input.drop s.pos with
  | [] => (s, .eos)
  | x :: rest =>
    let w := runeWidth (x :: rest)
    ({ s with width := w, pos := s.pos + w, total := s.total + w }, if x < 0x80 then .ch x else .other)

/-- `s.pick()` -/
def pick (s : St) : R := (next s).2

/-- `s.skipSpaces()` -/
def skipSpaces (s : St) : St :=
  let t := trimLeft s.input.length s.input
  { s with input := t, total := s.total + (s.input.length - t.length) }

def hasPrefixAt (inp : Bytes) (i : Nat) (p : Bytes) : Bool := p.isPrefixOf (inp.drop i)

/-- `strings.Index(s, pat)` -/
def indexOf (pat : Bytes) : Bytes → Option Nat
  | [] => if pat.isEmpty then some 0 else none
  | b :: s => if pat.isPrefixOf (b :: s) then some 0 else (indexOf pat s).map (· + 1)

/-- `strings.TrimSuffix` -/
def trimSuffix (s suf : Bytes) : Bytes := if suf.isSuffixOf s then s.take (s.length - suf.length) else s

/-- `strings.NewReplacer("\\n","\n","\\r","\r","\\t","\t").Replace` -/
def unescape : Bytes → Bytes
  | 0x5c :: 0x6e :: r => 0x0a :: unescape r
  | 0x5c :: 0x72 :: r => 0x0d :: unescape r
  | 0x5c :: 0x74 :: r => 0x09 :: unescape r
  | b :: r => b :: unescape r
  | [] => []

/-- `s.setDelim(d)`: `none` = error (empty delimiter). -/
def setDelim (s : St) (d : Bytes) : Option St :=
  if d.isEmpty then none else some { s with delim := unescape d }

/-- `s.emit(text)` -/
def emit (o : Opts) (s : St) (text : Bytes) : St × Stmt :=
  let t1 := if o.omitDelimiter || s.delim != [0x3b] then trimSuffix text s.delim else text
  ({ s with input := s.input.drop s.pos, pos := 0, comments := [] },
   { pos := s.total - text.length, text := trimSpace t1, comments := s.comments })

/-! ### the regular expressions (`\s` is `[\t\n\f\r ]` in RE2) -/

def isReSpace (b : UInt8) : Bool := b == 0x09 || b == 0x0a || b == 0x0c || b == 0x0d || b == 0x20

def upper (b : UInt8) : UInt8 := if 0x61 ≤ b && b ≤ 0x7a then b - 0x20 else b

/-- case-insensitive ASCII match of `w` (given in upper case) at the head; returns the rest. -/
def word : Bytes → Bytes → Option Bytes
  | [], s => some s
  | _ :: _, [] => none
  | c :: w, b :: s => if upper b == c then word w s else none

def kwBEGIN : Bytes := [0x42, 0x45, 0x47, 0x49, 0x4e]
def kwATOMIC : Bytes := [0x41, 0x54, 0x4f, 0x4d, 0x49, 0x43]
def kwEND : Bytes := [0x45, 0x4e, 0x44]
def kwDELIMITER : Bytes := [0x44, 0x45, 0x4c, 0x49, 0x4d, 0x49, 0x54, 0x45, 0x52]

/-- length of the match of `(?i)^\s*BEGIN\s+` -/
def reBegin (s : Bytes) : Option Nat :=
  let s1 := s.dropWhile isReSpace
  match word kwBEGIN s1 with
  | none => none
  | some s2 =>
    let s3 := s2.dropWhile isReSpace
    if s3.length < s2.length then some (s.length - s3.length) else none

/-- length of the match of `(?i)^\s*BEGIN\s+ATOMIC\s+` -/
def reBeginAtomic (s : Bytes) : Option Nat :=
  match reBegin s with
  | none => none
  | some n =>
    match word kwATOMIC (s.drop n) with
    | none => none
    | some s2 =>
      let s3 := s2.dropWhile isReSpace
      if s3.length < s2.length then some (s.length - s3.length) else none

/-- length of the match of `(?i)^\s*END\s*` -/
def reEnd (s : Bytes) : Option Nat :=
  match word kwEND (s.dropWhile isReSpace) with
  | none => none
  | some s2 => some (s.length - (s2.dropWhile isReSpace).length)

def isIdentStart (b : UInt8) : Bool :=
  (0x41 ≤ b && b ≤ 0x5a) || (0x61 ≤ b && b ≤ 0x7a) || b == 0x5f

/-- tag characters `[\wÈ-ÿ]*` (È-ÿ are the two-byte runes C3 88 … C3 BF); returns the rest. -/
def skipTag : Nat → Bytes → Bytes
  | 0, s => s
  | fuel + 1, s =>
    match s with
    | 0xc3 :: b :: r => if 0x88 ≤ b && b ≤ 0xbf then skipTag fuel r else s
    | b :: r => if Hash.isWord b then skipTag fuel r else s
    | [] => []

/-- may a dollar-quote tag start like this? (empty tag, or a letter / underscore / È-ÿ first) -/
def dollarStartOk : Bytes → Bool
  | 0x24 :: _ => true
  | 0xc3 :: b :: _ => 0x88 ≤ b && b ≤ 0xbf
  | b :: _ => isIdentStart b
  | [] => false

/-- the match of the tag part and the closing `$`, given what follows the opening `$`. -/
def dollarClose (r : Bytes) : Option Bytes :=
  match skipTag r.length r with
  | 0x24 :: r2 => some r2
  | _ => none

/-- length of the match of `^\$([A-Za-zÈ-ÿ_][\wÈ-ÿ]*)*\$` -/
def reDollarQuote (s : Bytes) : Option Nat :=
  match s with
  | 0x24 :: r =>
    if dollarStartOk r then (dollarClose r).map (fun r2 => s.length - r2.length) else none
  | _ => none

/-! ### pieces of `stmt` -/

/-- `s.skipQuote(quote)`: `none` = unclosed quote. The loop runs on fuel. -/
def skipQuoteLoop (quote : UInt8) (escaped : Bool) : Nat → St → Option St
  | 0, _ => none
  | fuel + 1, s =>
    match next s with
    | (_, .eos) => none
    | (s, .ch b) =>
      if b == 0x5c && escaped then skipQuoteLoop quote escaped fuel (next s).1
      else if b == quote then some s
      else skipQuoteLoop quote escaped fuel s
    | (s, .other) => skipQuoteLoop quote escaped fuel s

def skipQuote (o : Opts) (s : St) (quote : UInt8) : Option St :=
  -- repaired tree: the byte before the opening quote (s.input[s.pos-2]); the pinned commit looked at the quote itself
  let prev := (s.input.drop (s.pos - 2)).head?
  -- repaired tree: backslash is not an escape character in back-quoted identifiers
  let escaped := (o.backslashEscapes && quote != 0x60) ||
    (o.escapedStringExt && decide (s.pos > 1) && (prev == some 0x45 || prev == some 0x65))
  skipQuoteLoop quote escaped (s.input.length + 1) s

/-- the closing loop of `skipDollarQuote`. -/
def dollarLoop (m : Bytes) : Nat → St → St
  | 0, s => s
  | fuel + 1, s =>
    match next s with
    | (s, .eos) => s                      -- delim is never empty: return nil
    | (s, .ch b) =>
      if b == 0x24 && hasPrefixAt s.input (s.pos - 1) m then s.addPos (m.length - 1)
      else dollarLoop m fuel s
    | (s, .other) => dollarLoop m fuel s

/-- `s.skipDollarQuote()` (the caller has checked that the regexp matches). -/
def skipDollarQuote (s : St) : Option St :=
  match reDollarQuote (s.input.drop (s.pos - 1)) with
  | none => none
  | some n =>
    let m := (s.input.drop (s.pos - 1)).take n
    some (dollarLoop m (s.input.length + 1) (s.addPos (n - 1)))

/-- `s.comment(left, right)` where `leftLen = len(left)`. -/
def comment (s : St) (leftLen : Nat) (right : Bytes) : St :=
  match indexOf right (s.input.drop s.pos) with
  | none => s
  | some i =>
    if s.pos != leftLen then s.addPos (i + right.length)
    else
      let s := s.addPos (i + right.length)
      let c := s.input.take s.pos
      let inp := s.input.drop s.pos
      let drop := [0x0a, 0x0a].isPrefixOf inp || (right == [0x0a] && [0x0a].isPrefixOf inp)
      skipSpaces { s with comments := if drop then [] else s.comments ++ [c], input := inp, pos := 0 }

/-- the consuming loop of `delimCmd`: `for r := pick(); r != eos && r != '\n'; r = next() {}` -/
def delimLoop : Nat → St → R → St
  | 0, s, _ => s
  | fuel + 1, s, r =>
    match r with
    | .eos => s
    | .ch 0x0a => s
    | _ => let (s', r') := next s; delimLoop fuel s' r'

/-- `s.delimCmd()`: `.inl` = error/panic outcome, `.inr` the new state. -/
def delimCmd (fixed : Bool) (o : Opts) (s : St) : Sum Out St :=
  if pick s != .ch 0x20 then .inr s
  else
    let s := delimLoop (s.input.length + 1) s (pick s)
    let d := trimSpace ((s.input.take s.pos).drop 9)
    let quoted := [0x27].isPrefixOf d && [0x27].isSuffixOf d
    if quoted && d.length < 2 && !fixed then .inl .panic     -- delim[1:len(delim)-1] with len = 1
    else
      let d := if quoted && d.length ≥ 2 then
          -- strings.ReplaceAll(delim[1:len-1], "''", "'")
          let inner := (d.drop 1).take (d.length - 2)
          let rec repl : Bytes → Bytes
            | 0x27 :: 0x27 :: r => 0x27 :: repl r
            | b :: r => b :: repl r
            | [] => []
          repl inner
        else d
      match setDelim s d with
      | none => .inl .err
      | some s => .inr (emit o s (s.input.take s.pos)).1

/-- `s.init(input)`: `none` = error. -/
def init (fixed : Bool) (input : Bytes) : Option St :=
  let s : St := { input := input }
  match Hash.directive input with
  | some (pre, name, args) =>
    if name == [0x64, 0x65, 0x6c, 0x69, 0x6d, 0x69, 0x74, 0x65, 0x72] && pre == [0x2d, 0x2d, 0x20] then
      match setDelim s args with
      | none => none
      | some s =>
        match indexOf [0x0a] input with
        | none => none      -- no input found after delimiter
        | some i =>
          some { s with input := input.drop (i + 1), total := if fixed then i + 1 else 0 }
    else some s
  | none => some s

/-! ### `stmt` with nested scanners -/

/-- result of one iteration of the `Scan:` loop. -/
inductive Step
  | cont (s : St) (depth openingPos : Nat)     -- next iteration
  | brk (s : St) (text : Bytes)                -- `break Scan` with this text
  | ret (s : St) (out : Out)                   -- `return`
deriving Repr, Inhabited

/-- the nested-scanner part shared by `skipBeginAtomic` and `skipBegin`: the keyword match of length
`n` starts at `pos-1`; on any failure the scan simply goes on (in the state reached so far). -/
def beginBlock (fixed : Bool) (body : Bool → Bytes → St → Option Nat) (isAtomic : Bool) (s : St) (n : Nat)
    (depth openingPos : Nat) : Step :=
  let s1 := s.addPos (n - 1)
  match init fixed (s1.input.drop s1.pos) with
  | none => .cont s1 depth openingPos
  | some b =>
    match body isAtomic s.delim b with
    | some t => let s2 := s1.addPos t; .brk s2 (s2.input.take s2.pos)
    | none => .cont s1 depth openingPos

/-- cases `BEGIN …` and default of the `switch`. -/
def stepE (fixed : Bool) (o : Opts) (body : Bool → Bytes → St → Option Nat) (s : St)
    (depth openingPos : Nat) : Step :=
  if s.delim == [0x3b] && o.matchBegin &&
      ((s.pos == 1 && (reBegin (s.input.drop (s.pos - 1))).isSome) ||
       (s.pos > 1 && (reBegin (s.input.drop (s.pos - 2))).isSome)) then
    match reBegin (s.input.drop (s.pos - 1)) with
    | none => .cont s depth openingPos      -- "unexpected missing BEGIN block"
    | some n => beginBlock fixed body false s n depth openingPos
  else .cont s depth openingPos

/-- case `BEGIN ATOMIC …`. -/
def stepD (fixed : Bool) (o : Opts) (body : Bool → Bytes → St → Option Nat) (s : St)
    (depth openingPos : Nat) : Step :=
  if s.delim == [0x3b] && o.matchBeginAtomic && (reBeginAtomic (s.input.drop (s.pos - 1))).isSome then
    match reBeginAtomic (s.input.drop (s.pos - 1)) with
    | none => .cont s depth openingPos
    | some n => beginBlock fixed body true s n depth openingPos
  else stepE fixed o body s depth openingPos

/-- cases dollar quote and the three comment styles. -/
def stepC (fixed : Bool) (o : Opts) (body : Bool → Bytes → St → Option Nat) (s : St) (r : R)
    (depth openingPos : Nat) : Step :=
  if o.matchDollarQuote && r == .ch 0x24 && (reDollarQuote (s.input.drop (s.pos - 1))).isSome then
    match skipDollarQuote s with
    | none => .ret s .err
    | some s => .cont s depth openingPos
  else if r == .ch 0x23 && o.hashComments then .cont (comment s 1 [0x0a]) depth openingPos
  else if r == .ch 0x2d && pick s == .ch 0x2d then .cont (comment (next s).1 2 [0x0a]) depth openingPos
  else if r == .ch 0x2f && pick s == .ch 0x2a then .cont (comment (next s).1 2 [0x2a, 0x2f]) depth openingPos
  else stepD fixed o body s depth openingPos

/-- cases DELIMITER command and "the delimiter ends the statement". -/
def stepB (fixed : Bool) (o : Opts) (body : Bool → Bytes → St → Option Nat) (s : St) (r : R)
    (depth openingPos : Nat) : Step :=
  if s.pos == 1 && s.input.length > 9 && word kwDELIMITER (s.input.take 9) == some [] then
    match delimCmd fixed o (s.addPos 8) with
    | .inl out => .ret s out
    | .inr s => .cont (skipSpaces s) depth openingPos
  else if depth == 0 && hasPrefixAt s.input (s.pos - s.width) s.delim then
    -- s.addPos(len(s.delim) - s.width): the difference may be negative
    let s := { s with pos := s.pos + s.delim.length - s.width, total := s.total + s.delim.length - s.width }
    .brk s (s.input.take s.pos)
  else stepC fixed o body s r depth openingPos

/-- the `switch` of the `Scan:` loop for a decoded rune `r` (not end of input); `s` is the state
after `next`. Cases parentheses and quotes first. -/
def stepCh (fixed : Bool) (o : Opts) (body : Bool → Bytes → St → Option Nat) (s : St) (r : R)
    (depth openingPos : Nat) : Step :=
  if r == .ch 0x28 then .cont s (depth + 1) (if depth == 0 then s.pos else openingPos)
  else if r == .ch 0x29 then
    if depth == 0 then .ret s .err else .cont s (depth - 1) openingPos
  else if r == .ch 0x27 || r == .ch 0x22 || r == .ch 0x60 then
    match r with
    | .ch q => match skipQuote o s q with
      | none => .ret s .err
      | some s => .cont s depth openingPos
    | _ => .ret s .err
  else stepB fixed o body s r depth openingPos

/-- One iteration of the `Scan:` loop of `stmt` (everything after the label up to the end of the
switch). `body isAtomic outerDelim b` runs the nested scanner `b` of `skipBeginAtomic`/`skipBegin`
until its END statement and returns the nested `total`. -/
def step (fixed : Bool) (o : Opts) (body : Bool → Bytes → St → Option Nat) (s : St) (depth openingPos : Nat) : Step :=
  match next s with
  | (s, .eos) =>
    if depth > 0 then .ret s .err
    else if s.pos > 0 then .brk s s.input
    else .ret s .eof
  | (s, r) => stepCh fixed o body s r depth openingPos

mutual

/-- `skipBeginAtomic` / `skipBegin` body: scan the nested statements on a fresh scanner until the
`END` one; returns the nested scanner's `total`, or `none` on any error. `isAtomic` selects the end
test of `skipBeginAtomic` (any statement starting with END) or of `skipBegin`. -/
def bodyLoop (fixed : Bool) (o : Opts) (isAtomic : Bool) (outerDelim : Bytes) : Nat → St → Option Nat
  | 0, _ => none
  | fuel + 1, b =>
    match stmt fixed o fuel b with
    | (b, .inr st) =>
      match reEnd st.text with
      | some m =>
        if isAtomic || m == st.text.length || st.text.drop m == outerDelim then some b.total
        else bodyLoop fixed o isAtomic outerDelim fuel b
      | none => bodyLoop fixed o isAtomic outerDelim fuel b
    | _ => none

/-- the `Scan:` loop of `stmt`. Returns the state and `.inl text` (break Scan with this text) or
`.inr out` (return). -/
def scanLoop (fixed : Bool) (o : Opts) : Nat → St → Nat → Nat → St × Sum Bytes Out
  | 0, s, _, _ => (s, .inr .fuel)
  | fuel + 1, s, depth, openingPos =>
    match step fixed o (fun a d b => bodyLoop fixed o a d fuel b) s depth openingPos with
    | .cont s d op => scanLoop fixed o fuel s d op
    | .brk s text => (s, .inl text)
    | .ret s out => (s, .inr out)

/-- `s.stmt()` -/
def stmt (fixed : Bool) (o : Opts) : Nat → St → St × Sum Out Stmt
  | 0, s => (s, .inl .fuel)
  | fuel + 1, s =>
    match scanLoop fixed o fuel (skipSpaces s) 0 0 with
    | (s, .inr out) => (s, .inl out)
    | (s, .inl text) => let (s, st) := emit o s text; (s, .inr st)

end

/-- the `for` loop of `Scan`. -/
def scanAll (fixed : Bool) (o : Opts) (fuel : Nat) : Nat → St → List Stmt → Sum Out (List Stmt)
  | 0, _, _ => .inl .fuel
  | n + 1, s, acc =>
    match stmt fixed o fuel s with
    | (_, .inl .eof) => .inr acc.reverse
    | (s, .inr st) => scanAll fixed o fuel n s (st :: acc)
    | (_, .inl out) => .inl out

def fuelFor (input : Bytes) : Nat := (input.length + 3) * (input.length + 3)

/-- `(*Scanner).Scan(input)` -/
def scan (fixed : Bool) (o : Opts) (input : Bytes) : Sum Out (List Stmt) :=
  match init fixed input with
  | none => .inl .err
  | some s => scanAll fixed o (fuelFor input) (input.length + 2) s []

/-- `Scan` with the two loop bounds of the model given explicitly (`scan` fixes them from the input
length); `Props.C08.fuel_irrelevant` shows that they do not matter once they are large enough. -/
def scanWith (fixed : Bool) (o : Opts) (fuel n : Nat) (input : Bytes) : Sum Out (List Stmt) :=
  match init fixed input with
  | none => .inl .err
  | some s => scanAll fixed o fuel n s []

theorem scan_eq_scanWith (fixed : Bool) (o : Opts) (input : Bytes) :
    scan fixed o input = scanWith fixed o (fuelFor input) (input.length + 2) input := rfl

end Atlas.Lex
